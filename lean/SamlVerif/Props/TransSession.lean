/-
  Props/TransSession — who counts as logged in, on the regenerated code.

  C19: `samlidp/session.go`, the branch of `Server.GetSession` that handles a request without credentials — from the statement
  `if sessionCookie, err := r.Cookie("session"); err == nil {` to the end (`Generated/TransSamlidp.lean`, `TransI.cookieSession`);
  the store and the request's cookies are arbitrary functions, the rendering of the login form and `http.Error` are events.
  C16: `samlsp/session_cookie.go` `CookieSessionProvider.GetSession` (`Generated/TransSamlsp.lean`, `TransM.cookieGetSession`);
  the codec and the request's cookies are arbitrary functions.
-/
import SamlVerif.Generated.TransSamlidp
import SamlVerif.Generated.TransSamlsp
import SamlVerif.Proofs.GoInv
open SamlVerif SamlVerif.GoSem
namespace SamlVerif.TransSession

def evLoginForm : Event := ⟨"s.sendLoginForm", [""]⟩
def evServerError : Event := ⟨"http.Error", ["StatusInternalServerError"]⟩

/-- C19: every run of the cookie branch -/
theorem cookieSession_cases (env : TransI.Env) (s : TransI.Server) (w : ResponseWriter) (r : Option HTTPRequest)
    (req : Option TransI.IdpAuthnRequest) (out : Option TransI.Session) (tr : List Event)
    (h : TransI.cookieSession env s w r req = .ok (out, tr)) :
    ∃ rq, r = some rq ∧
    (-- no cookie
     (∃ ck e, env.cookie rq "session" = .ok (ck, some e) ∧ out = none ∧ tr = [evLoginForm]) ∨
     -- a cookie naming no stored session / a failing store
     (∃ ck v e, env.cookie rq "session" = .ok (some ck, none) ∧ env.storeGet_Session ("/sessions/" ++ ck.Value) = .ok (v, some e) ∧
        out = none ∧ tr = [if some e = env.ErrNotFound then evLoginForm else evServerError]) ∨
     -- a stored session
     (∃ ck v, env.cookie rq "session" = .ok (some ck, none) ∧ env.storeGet_Session ("/sessions/" ++ ck.Value) = .ok (v, none) ∧
        ((env.timeNow > v.ExpireTime ∧ out = none ∧ tr = [evLoginForm]) ∨
         (env.timeNow ≤ v.ExpireTime ∧ out = some v ∧ tr = [])))) := by
  unfold TransI.cookieSession at h
  simp only [go_inv] at h
  obtain ⟨rq, rfl, ck, ce, hc, ⟨rfl, c, rfl, v, ge, hg, h⟩ | ⟨hce, rfl, rfl⟩⟩ := h
  · refine ⟨rq, rfl, Or.inr ?_⟩
    rcases h with ⟨hge, ⟨hnf, rfl, rfl⟩ | ⟨hnf, rfl, rfl⟩⟩ | ⟨rfl, ⟨hexp, rfl, rfl⟩ | ⟨hexp, rfl, rfl⟩⟩
    · obtain ⟨e, rfl⟩ := Option.ne_none_iff_exists'.1 hge
      exact Or.inl ⟨c, v, e, hc, hg, rfl, by rw [if_pos hnf]; rfl⟩
    · obtain ⟨e, rfl⟩ := Option.ne_none_iff_exists'.1 hge
      exact Or.inl ⟨c, v, e, hc, hg, rfl, by rw [if_neg hnf]; rfl⟩
    · exact Or.inr ⟨c, v, hc, hg, Or.inl ⟨hexp, rfl, rfl⟩⟩
    · exact Or.inr ⟨c, v, hc, hg, Or.inr ⟨by omega, rfl, rfl⟩⟩
  · obtain ⟨e, rfl⟩ := Option.ne_none_iff_exists'.1 hce
    exact ⟨rq, rfl, Or.inl ⟨ck, e, hc, rfl, rfl⟩⟩

/-- C19: "the cookie of a stored, unexpired session": a session is returned only for a request that presents a cookie named
    `session` whose value names a session the store holds (`/sessions/<value>`, read without error) and whose stored expiry has not
    passed (`now ≤ ExpireTime`); nothing is written to the response then -/
theorem cookieSession_sound (env : TransI.Env) (s : TransI.Server) (w : ResponseWriter) (r : Option HTTPRequest)
    (req : Option TransI.IdpAuthnRequest) (v : TransI.Session) (tr : List Event)
    (h : TransI.cookieSession env s w r req = .ok (some v, tr)) :
    ∃ rq ck, r = some rq ∧ env.cookie rq "session" = .ok (some ck, none) ∧
      env.storeGet_Session ("/sessions/" ++ ck.Value) = .ok (v, none) ∧ env.timeNow ≤ v.ExpireTime ∧ tr = [] := by
  obtain ⟨rq, hr, hc⟩ := cookieSession_cases env s w r req (some v) tr h
  obtain ⟨-, -, -, ⟨⟩, -⟩ | ⟨-, -, -, -, -, ⟨⟩, -⟩ | ⟨ck, v', hck, hg, ⟨-, ⟨⟩, -⟩ | ⟨hle, ⟨⟩, ht⟩⟩ := hc
  exact ⟨rq, ck, hr, hck, hg, hle, ht⟩

/-- C19: whenever no session is returned, the browser gets exactly one reply: the login form or a 500 -/
theorem cookieSession_otherwise (env : TransI.Env) (s : TransI.Server) (w : ResponseWriter) (r : Option HTTPRequest)
    (req : Option TransI.IdpAuthnRequest) (tr : List Event)
    (h : TransI.cookieSession env s w r req = .ok (none, tr)) : tr = [evLoginForm] ∨ tr = [evServerError] := by
  obtain ⟨rq, -, hc⟩ := cookieSession_cases env s w r req none tr h
  obtain ⟨-, -, -, -, ht⟩ | ⟨-, -, e, -, -, -, ht⟩ | ⟨-, -, -, -, ⟨-, -, ht⟩ | ⟨-, ⟨⟩, -⟩⟩ := hc
  · exact Or.inl ht
  · rw [ht]
    split
    · exact Or.inl rfl
    · exact Or.inr rfl
  · exact Or.inl ht

/-- C19: an expired session — by one unit of time or by a year — is no session -/
theorem cookieSession_expired_refused (env : TransI.Env) (s : TransI.Server) (w : ResponseWriter) (rq : HTTPRequest)
    (req : Option TransI.IdpAuthnRequest) (ck : Cookie) (v : TransI.Session) (out : Option TransI.Session) (tr : List Event)
    (hck : env.cookie rq "session" = .ok (some ck, none))
    (hg : env.storeGet_Session ("/sessions/" ++ ck.Value) = .ok (v, none))
    (hexp : v.ExpireTime < env.timeNow)
    (h : TransI.cookieSession env s w (some rq) req = .ok (out, tr)) : out = none ∧ tr = [evLoginForm] := by
  unfold TransI.cookieSession at h
  simp only [go_inv, hck, hg, gt_iff_lt, hexp] at h
  exact ⟨h.1.symm, h.2.symm⟩

/-- C16: the SP's cookie session provider reports a session only if its codec decodes the value of its cookie -/
theorem cookieGetSession_sound (env : TransM.Env) (c : TransM.CookieSessionProvider) (r : Option HTTPRequest) (sess : TransM.Session)
    (h : TransM.cookieGetSession env c r = .ok (some sess, none)) :
    ∃ rq ck, r = some rq ∧ env.cookie rq c.Name = .ok (some ck, none) ∧ c.Codec.Decode ck.Value = .ok (some sess, none) := by
  unfold TransM.cookieGetSession at h
  simp only [go_inv] at h
  obtain ⟨rq, rfl, ck, ce, hc, -, rfl, k, rfl, so, de, hd, rfl, rfl⟩ := h
  exact ⟨rq, k, rfl, hc, hd⟩

def evBadLogin : Event := ⟨"s.sendLoginForm", ["Invalid username or password"]⟩
/-- the last event of a translated prefix that ran to its end: the handler goes on -/
def evContinues : Event := ⟨"(continues)", []⟩

/-- C19 (the credentials branch of `Server.GetSession`, up to the creation of the session): the code goes on to create a session
    (its trace ends with the continuation mark) only if the store holds the named user (read without error), the presented password is one that can have been set, and bcrypt
    accepts it against that user's stored hash; every refusal is the same reply, the login form with the same message, whichever
    check failed — and nothing else is written -/
theorem credentialGuards_cases (env : TransI.Env) (s : TransI.Server) (w : ResponseWriter) (r : Option HTTPRequest)
    (req : Option TransI.IdpAuthnRequest) (out : Option TransI.Session) (tr : List Event)
    (h : TransI.credentialGuards env s w r req = .ok (out, tr)) :
    ∃ rq, r = some rq ∧ out = none ∧
      ((tr = [evContinues] ∧ ∃ u, env.storeGet_User ("/users/" ++ env.postFormGet rq "user") = .ok (u, none) ∧
          env.validPassword (env.postFormGet rq "password") = .ok true ∧
          env.bcryptCompare u.HashedPassword (env.postFormGet rq "password") = none) ∨
       (tr = [evBadLogin] ∧
          ((∃ u e, env.storeGet_User ("/users/" ++ env.postFormGet rq "user") = .ok (u, some e)) ∨
           env.validPassword (env.postFormGet rq "password") = .ok false ∨
           (∃ u, env.storeGet_User ("/users/" ++ env.postFormGet rq "user") = .ok (u, none) ∧
              env.bcryptCompare u.HashedPassword (env.postFormGet rq "password") ≠ none)))) := by
  unfold TransI.credentialGuards at h
  simp only [go_inv] at h
  obtain ⟨rq, rfl, u, ue, hu, h⟩ := h
  refine ⟨rq, rfl, ?_⟩
  -- the later `*r` are the same `rq`
  simp only [Option.some.injEq, exists_eq_left'] at h
  rcases h with ⟨hue, rfl, rfl⟩ | ⟨rfl, vb, hv, ⟨rfl, rfl, rfl⟩ | ⟨rfl, ⟨hb, rfl, rfl⟩ | ⟨hb, rfl, rfl⟩⟩⟩
  · obtain ⟨e, rfl⟩ := Option.ne_none_iff_exists'.1 hue
    exact ⟨rfl, Or.inr ⟨rfl, Or.inl ⟨u, e, hu⟩⟩⟩
  · exact ⟨rfl, Or.inr ⟨rfl, Or.inr (Or.inl hv)⟩⟩
  · exact ⟨rfl, Or.inr ⟨rfl, Or.inr (Or.inr ⟨u, hu, hb⟩)⟩⟩
  · exact ⟨rfl, Or.inl ⟨rfl, u, hu, hv, hb⟩⟩

/-- C16 / C17 (`samlsp/request_tracker_jwt.go` `JWTTrackedRequestCodec.Decode` from `if err != nil {` on — what happens to the claims
    once the JWT library has parsed and verified the token; the library's audience and issuer checks are arbitrary functions of
    the claims): a tracked request is returned only if the parse reported no error, the audience and issuer checks (asked with
    this codec's audience and issuer, as required claims) both passed, and the token says of itself that it is a request-tracking
    token (`saml-authn-request`); its index is then the token's subject. -/
theorem trackedRequestClaimsCheck_sound (env : TransM.Env) (s : TransM.JWTTrackedRequestCodec) (claims : TransM.JWTTrackedRequestClaims)
    (err : GoError) (tr : TransM.TrackedRequest)
    (h : TransM.trackedRequestClaimsCheck env s claims err = .ok (some tr, none)) :
    err = none ∧ env.verifyAudience_JWTTrackedRequestClaims claims s.Audience true = true ∧
    env.verifyIssuer_JWTTrackedRequestClaims claims s.Issuer true = true ∧ claims.SAMLAuthnRequest = true ∧
    tr = { claims.TrackedRequest with Index := claims.Subject } := by
  unfold TransM.trackedRequestClaimsCheck at h
  simp only [go_inv] at h
  obtain ⟨rfl, ha, hi, hm, rfl⟩ := h
  exact ⟨rfl, ha, hi, hm, rfl⟩

/-- a token without the request-tracking mark is refused, whatever else it says -/
theorem trackedRequestClaimsCheck_needs_mark (env : TransM.Env) (s : TransM.JWTTrackedRequestCodec) (claims : TransM.JWTTrackedRequestClaims)
    (err : GoError) (hm : claims.SAMLAuthnRequest = false) :
    ∃ e, TransM.trackedRequestClaimsCheck env s claims err = .ok (none, some e) := by
  unfold TransM.trackedRequestClaimsCheck
  dsimp only
  rw [hm]
  -- with each check decided, the chain of `if`s evaluates
  cases err with
  | some e => exact ⟨e, rfl⟩
  | none =>
    cases env.verifyAudience_JWTTrackedRequestClaims claims s.Audience true
    · exact ⟨_, rfl⟩
    cases env.verifyIssuer_JWTTrackedRequestClaims claims s.Issuer true <;> exact ⟨_, rfl⟩

/-- C16 (`samlsp/session_jwt.go` `JWTSessionCodec.Decode` from `if err != nil {` on): a session comes out of the codec only if the
    JWT library reported no error for the token (signature, algorithm, time window: the library's part), its audience and issuer
    checks passed for *this* codec's audience and issuer, and the token carries the session mark — a request-tracking token of the
    same SP, which does not, is no session -/
theorem sessionClaimsCheck_sound (env : TransM.Env) (c : TransM.JWTSessionCodec) (claims : TransM.JWTSessionClaims)
    (err : GoError) (sess : TransM.Session)
    (h : TransM.sessionClaimsCheck env c claims err = .ok (some sess, none)) :
    err = none ∧ env.verifyAudience_JWTSessionClaims claims c.Audience true = true ∧
    env.verifyIssuer_JWTSessionClaims claims c.Issuer true = true ∧ claims.SAMLSession = true := by
  unfold TransM.sessionClaimsCheck at h
  simpa only [go_inv] using h

/-- every refusal is an error with no session; every acceptance carries no error: never both, never neither -/
theorem sessionClaimsCheck_total (env : TransM.Env) (c : TransM.JWTSessionCodec) (claims : TransM.JWTSessionClaims) (err : GoError) :
    (∃ e, TransM.sessionClaimsCheck env c claims err = .ok (none, some e)) ∨
    (∃ s, TransM.sessionClaimsCheck env c claims err = .ok (some s, none)) := by
  unfold TransM.sessionClaimsCheck
  dsimp only
  cases err with
  | some e => exact Or.inl ⟨e, rfl⟩
  | none =>
    cases env.verifyAudience_JWTSessionClaims claims c.Audience true
    · exact Or.inl ⟨_, rfl⟩
    cases env.verifyIssuer_JWTSessionClaims claims c.Issuer true
    · exact Or.inl ⟨_, rfl⟩
    cases claims.SAMLSession
    · exact Or.inl ⟨_, rfl⟩
    · exact Or.inr ⟨_, rfl⟩

/-- the cookie `CreateSession` sets -/
def sessionCookieEvent (c : TransM.CookieSessionProvider) (domain value path : String) (secure : Bool) : Event :=
  ⟨"http.SetCookie", ["Name=" ++ c.Name, "Domain=" ++ domain, "Value=" ++ value, "HttpOnly=" ++ toString c.HTTPOnly,
    "Secure=" ++ toString secure, "Path=" ++ path]⟩

/-- C17 (`samlsp/session_cookie.go` `CookieSessionProvider.CreateSession`; the codec, `net.SplitHostPort` and the request's scheme
    are arbitrary functions): the only thing written to the response is one `Set-Cookie`, after the codec minted and encoded the
    session without error; the cookie carries the provider's name, the encoded session as its value, `HttpOnly` exactly as
    configured and `Secure` when configured *or* when the request came over https; any codec error writes nothing -/
theorem cookieCreateSession_cookie (env : TransM.Env) (c c' : TransM.CookieSessionProvider) (w : ResponseWriter) (rq : HTTPRequest)
    (a : Option TransM.Assertion) (e : GoError) (tr : List Event)
    (h : TransM.cookieCreateSession env c w (some rq) a = .ok (c', (e, tr))) :
    (e ≠ none ∧ tr = []) ∨
    (e = none ∧ ∃ sess value, c.Codec.New a = .ok (sess, none) ∧ c.Codec.Encode sess = .ok (value, none) ∧
      ∃ domain path, tr = [sessionCookieEvent c domain value path (c.Secure || env.requestScheme rq == "https")] ∧
        (path = c.Path ∨ (c.Path = "" ∧ path = "/"))) := by
  unfold TransM.cookieCreateSession at h
  extract_lets c0 tr0 _ _ create at h
  have hcreate : ∀ cc, create () cc = .ok (c', (e, tr)) →
      (e ≠ none ∧ tr = []) ∨
      (e = none ∧ ∃ sess value, cc.Codec.New a = .ok (sess, none) ∧ cc.Codec.Encode sess = .ok (value, none) ∧
        ∃ path, tr = [sessionCookieEvent cc cc.Domain value path (cc.Secure || env.requestScheme rq == "https")] ∧
          (path = cc.Path ∨ (cc.Path = "" ∧ path = "/"))) := by
    intro cc hc
    simp only [create, tr0, deref_some, Outcome.pure_eq_ok, Outcome.ok_bind', ite_true_or] at hc
    simp only [go_inv] at hc
    -- the leaves: minting fails | encoding fails | the cookie with path `/` | with the configured path; each `-` is `cc = c'`
    obtain ⟨sess, ne, hn, ⟨hne, -, rfl, rfl⟩ | ⟨rfl, value, ee, hen, ⟨hee, -, rfl, rfl⟩ |
      ⟨rfl, ⟨hp, -, rfl, rfl⟩ | ⟨hp, -, rfl, rfl⟩⟩⟩⟩ := hc
    · exact Or.inl ⟨hne, rfl⟩
    · exact Or.inl ⟨hee, rfl⟩
    · exact Or.inr ⟨rfl, sess, value, hn, hen, "/", rfl, Or.inr ⟨hp, rfl⟩⟩
    · exact Or.inr ⟨rfl, sess, value, hn, hen, cc.Path, rfl, Or.inl rfl⟩
  simp only [go_inv] at h
  obtain ⟨dom, port, se, hs, ⟨rfl, h⟩ | ⟨-, h⟩⟩ := h
  · exact (hcreate _ h).imp id fun ⟨he, sess, value, hn, hen, path, ht, hp⟩ => ⟨he, sess, value, hn, hen, dom, path, ht, hp⟩
  · exact (hcreate _ h).imp id fun ⟨he, sess, value, hn, hen, path, ht, hp⟩ => ⟨he, sess, value, hn, hen, c.Domain, path, ht, hp⟩

theorem TransI_no_failures : TransI.transFailures = [] := rfl

/-! non-vacuity -/
def exEnvI (now : Int) : TransI.Env :=
  { (default : TransI.Env) with
    ErrNotFound := some "not found"
    timeNow := now
    cookie := fun _ n => if n = "session" then .ok (some ⟨"session", "abc"⟩, none) else .ok (none, some "http.ErrNoCookie")
    storeGet_Session := fun k => if k = "/sessions/abc" then .ok (⟨3600⟩, none) else .ok (default, some "not found") }
example : TransI.cookieSession (exEnvI 3600) default ⟨0⟩ (some ⟨0⟩) none = .ok (some ⟨3600⟩, []) := by rfl
example : TransI.cookieSession (exEnvI 3601) default ⟨0⟩ (some ⟨0⟩) none = .ok (none, [evLoginForm]) := by rfl

end SamlVerif.TransSession
