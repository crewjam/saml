/-
  Props/TransIdP — C05 on the definitions regenerated from the *current* identity_provider.go
  (`Generated/Trans.lean`: `getACSEndpoint`, and `IdpAuthnRequest.Validate` from its Destination check on).
-/
import SamlVerif.Proofs.TransIdP
open SamlVerif SamlVerif.GoSem
namespace SamlVerif.TransIdP

/-- the four nested loops of `getACSEndpoint` compute `selectSpec` over the (descriptor, endpoint) pairs of the registered
    metadata, and leave the request unchanged with `os.ErrNotExist` otherwise -/
theorem Trans_getACSEndpoint_eq (env : Trans.Env) (req : Trans.IdpAuthnRequest) (md : Trans.EntityDescriptor)
    (h : req.ServiceProviderMetadata = some md) :
    Trans.getACSEndpoint env req = .ok (match selectSpec md req.Request with
      | some p => (chosen req p, none)
      | none => (req, some "os.ErrNotExist")) := by
  -- the loops first: each becomes a `find?` over `pairs md`, and what is left of the code is a tree of `if`s and `match`es
  unfold Trans.getACSEndpoint
  simp only [Outcome.pure_eq_ok, derefOr_false, Outcome.ok_bind', ite_ite_and, acs_search, implies_true, h, deref_some,
    ← pairs.eq_1]
  -- which branches on the two "is it given" tests and the outcome of the four searches, as `selectSpec` does
  simp only [selectSpec, isBrowser]
  generalize List.find? _ (pairs md) = byIndex
  generalize List.find? _ (pairs md) = byURL
  generalize List.find? _ (pairs md) = dflt
  generalize List.find? _ (pairs md) = brow
  by_cases hi : req.Request.AssertionConsumerServiceIndex = "" <;>
    by_cases hu : req.Request.AssertionConsumerServiceURL = ""
  · cases dflt <;> cases brow <;> simp [hi, hu]
  · cases byURL <;> simp [hi, hu]
  · cases byIndex <;> simp [hi, hu]
  · cases byIndex <;> cases byURL <;> simp [hi, hu]

theorem selectSpec_mem (md : Trans.EntityDescriptor) (r : Trans.AuthnRequest) (p) (h : selectSpec md r = some p) : p ∈ pairs md := by
  revert h
  fun_cases selectSpec md r
  -- 1, 2: found by index / by URL (a guarded `find?`); 3: the default endpoint; 4: the first browser binding; 5: nothing
  case case1 q hq | case2 q hq =>
    rintro ⟨⟩
    exact List.mem_of_find?_eq_some (Option.ite_none_right_eq_some.mp hq).2
  case case3 q hq =>
    rintro ⟨⟩
    exact List.mem_of_find?_eq_some hq
  case case4 => exact List.mem_of_find?_eq_some
  case case5 => nofun

theorem getACSEndpoint_nil {env : Trans.Env} {req req' : Trans.IdpAuthnRequest} {md : Trans.EntityDescriptor}
    (h : req.ServiceProviderMetadata = some md) (hr : Trans.getACSEndpoint env req = .ok (req', none)) :
    ∃ p, selectSpec md req.Request = some p ∧ p ∈ pairs md ∧ req' = chosen req p := by
  rw [Trans_getACSEndpoint_eq env req md h] at hr
  cases hs : selectSpec md req.Request with
  | none => simp [hs] at hr
  | some p =>
    simp only [hs, Outcome.ok.injEq, Prod.mk.injEq, and_true] at hr
    exact ⟨p, rfl, selectSpec_mem md _ p hs, hr.symm⟩

/-- `getACSEndpoint` never panics once the registered metadata is in place, and never selects a location that appears
    only in the request -/
theorem Trans_getACSEndpoint_registered (env : Trans.Env) (req req' : Trans.IdpAuthnRequest) (md : Trans.EntityDescriptor)
    (h : req.ServiceProviderMetadata = some md) (hr : Trans.getACSEndpoint env req = .ok (req', none)) :
    ∃ d e, d ∈ md.SPSSODescriptors ∧ e ∈ d.AssertionConsumerServices ∧ req'.SPSSODescriptor = some d ∧ req'.ACSEndpoint = some e := by
  obtain ⟨p, -, hp, rfl⟩ := getACSEndpoint_nil h hr
  have hm := (mem_pairs md p).1 hp
  exact ⟨p.1, p.2, hm.1, hm.2, rfl, rfl⟩

/-- **C05 on the translated code.**  When the regenerated `Validate` (from the Destination check on) returns nil, the request
    is fresh, version 2.0, names the SSO URL if it names a Destination, its issuer is known to the registry, and the endpoint
    left in the request is the one the selection rule picks among the *registered* endpoints of that issuer.
    Hypotheses: `req.IDP` is set; the IdP's metadata does not ask for signed requests (the code refuses all requests then,
    before the translated part); the registry returns metadata whenever it returns no error. -/
theorem Validate_sound (env : Trans.Env) (req req' : Trans.IdpAuthnRequest) (desc : Trans.IDPSSODescriptor)
    (idp : Trans.IdentityProvider) (hidp : req.IDP = some idp) (hw : desc.WantAuthnRequestsSigned ≠ some true)
    (hreg : ∀ r id md, idp.ServiceProviderProvider.GetServiceProvider r id = .ok (md, none) → md.isSome)
    (h : Trans.Validate env req desc = .ok (req', none)) :
    (req.Request.Destination = "" ∨ req.Request.Destination = idp.SSOURL.str) ∧
    req.Now ≤ req.Request.IssueInstant + env.MaxIssueDelay ∧
    req.Request.Version = "2.0" ∧
    ∃ iss md p, req.Request.Issuer = some iss ∧
      idp.ServiceProviderProvider.GetServiceProvider req.HTTPRequest iss.Value = .ok (some md, none) ∧
      selectSpec md req.Request = some p ∧ p ∈ pairs md ∧
      req'.ServiceProviderMetadata = some md ∧ req'.SPSSODescriptor = some p.1 ∧ req'.ACSEndpoint = some p.2 := by
  unfold Trans.Validate at h
  -- the IdP does not ask for signed requests: `mustHaveDestination` is whether the request names a Destination
  simp only [Outcome.pure_eq_ok, derefOr_false, beq_eq_false_iff_ne.2 hw, Outcome.ok_bind', Bool.false_or] at h
  simp only [hidp, go_inv] at h
  -- both ways past the Destination check continue alike
  have h : (req.Request.Destination = "" ∨ req.Request.Destination = idp.SSOURL.str) ∧ _ :=
    h.elim (fun h => ⟨Or.inr h.2.1, h.2.2⟩) (fun h => ⟨Or.inl h.1, h.2⟩)
  -- every refusal returns `some _`: of a run that returned `(req', none)` only the one through all the guards is left
  obtain ⟨hdest, hfresh, hver, -, iss, hiss, md?, e, hg, -, rfl, r, e', hacs, rfl, rfl⟩ := h
  obtain ⟨md, rfl⟩ := Option.isSome_iff_exists.1 (hreg _ _ _ hg)
  obtain ⟨p, hsel, hp, rfl⟩ := getACSEndpoint_nil rfl hacs
  exact ⟨hdest, by omega, hver, iss, md, p, hiss, hg, hsel, hp, rfl, rfl, rfl⟩

/-! ### the selection rule on the regenerated types is the hand-written model's `selectACS`, so the C05 theorems about the
    model are about it -/

def absE (e : Trans.IndexedEndpoint) : IdP.Endpoint :=
  { binding := e.Binding, location := e.Location, index := e.Index, isDefault := e.IsDefault }
def absD (d : Trans.SPSSODescriptor) : IdP.SPSSO := { acs := d.AssertionConsumerServices.map absE, keys := [] }
def absMD (md : Trans.EntityDescriptor) : IdP.EntityDesc := { entityID := md.EntityID, spsso := md.SPSSODescriptors.map absD }
def absP (p : Trans.SPSSODescriptor × Trans.IndexedEndpoint) : IdP.SPSSO × IdP.Endpoint := (absD p.1, absE p.2)
def absR (id : String) (r : Trans.AuthnRequest) : IdP.AuthnRequestS :=
  { id := id, issuer := r.Issuer.map (·.Value), destination := r.Destination, version := r.Version, issueInstant := r.IssueInstant,
    acsURL := r.AssertionConsumerServiceURL, acsIndex := r.AssertionConsumerServiceIndex }

theorem find_abs {α β : Type} (q : β → Bool) (q' : α → Bool) (f : α → β) (h : ∀ p, q (f p) = q' p) (l : List α) :
    List.find? (q ∘ f) l = List.find? q' l :=
  congrArg (List.find? · l) (funext h)

theorem allEndpoints_abs (md : Trans.EntityDescriptor) : IdP.allEndpoints (absMD md) = (pairs md).map absP := by
  unfold IdP.allEndpoints pairs absMD absP
  simp [List.flatMap_map, List.map_flatMap, Function.comp_def, absD]

theorem selectSpec_abs (id : String) (md : Trans.EntityDescriptor) (r : Trans.AuthnRequest) :
    (selectSpec md r).map absP = IdP.selectACS (absMD md) (absR id r) := by
  simp only [selectSpec, IdP.selectACS, allEndpoints_abs, List.find?_map, absR]
  -- the tests of the model, read through the abstraction, are the tests of `selectSpec`
  rw [find_abs (q' := fun p => itoa p.2.Index == r.AssertionConsumerServiceIndex) (h := fun _ => rfl),
      find_abs (q' := fun p => p.2.Location == r.AssertionConsumerServiceURL) (h := fun _ => rfl),
      find_abs (q' := fun p => p.2.IsDefault == some true && isBrowser p.2.Binding) (h := ?h3),
      find_abs (q := fun p : IdP.SPSSO × IdP.Endpoint => IdP.isBrowserBinding p.2.binding) (f := absP) (q' := fun p => isBrowser p.2.Binding) (h := fun _ => rfl)]
  case h3 =>
    intro p
    refine congrArg (· && isBrowser p.2.Binding) ?_
    by_cases hx : p.2.IsDefault = some true <;> simp [absP, absE, hx]
  generalize List.find? _ (pairs md) = byIndex
  generalize List.find? _ (pairs md) = byURL
  generalize List.find? _ (pairs md) = dflt
  generalize List.find? _ (pairs md) = brow
  by_cases hi : r.AssertionConsumerServiceIndex = "" <;> by_cases hu : r.AssertionConsumerServiceURL = ""
  · cases dflt <;> simp [hi, hu]
  · cases byURL <;> simp [hi, hu]
  · cases byIndex <;> simp [hi, hu]
  · cases byIndex <;> cases byURL <;> simp [hi, hu]

/-! non-vacuity: a registry entry with two endpoints; the request names the second by URL -/
def exEP (loc : String) (idx : Int) (dflt : Option Bool) : Trans.IndexedEndpoint :=
  { (default : Trans.IndexedEndpoint) with Binding := "urn:oasis:names:tc:SAML:2.0:bindings:HTTP-POST", Location := loc, Index := idx, IsDefault := dflt }
def exD : Trans.SPSSODescriptor :=
  { (default : Trans.SPSSODescriptor) with AssertionConsumerServices := [exEP "https://sp/acs0" 0 none, exEP "https://sp/acs1" 1 (some true)] }
def exMD : Trans.EntityDescriptor :=
  { (default : Trans.EntityDescriptor) with EntityID := "sp", SPSSODescriptors := [exD] }
def exReq (url idx : String) : Trans.AuthnRequest :=
  { (default : Trans.AuthnRequest) with Version := "2.0", Issuer := some ⟨"sp"⟩, AssertionConsumerServiceIndex := idx, AssertionConsumerServiceURL := url }
example : (selectSpec exMD (exReq "https://sp/acs1" "")).map (·.2.Location) = some "https://sp/acs1" := by decide +kernel
example : (selectSpec exMD (exReq "" "")).map (·.2.Location) = some "https://sp/acs1" := by decide +kernel
example : (selectSpec exMD (exReq "https://evil/acs" "")) = none := by decide +kernel
example : (selectSpec exMD (exReq "https://evil/acs" "0")).map (·.2.Location) = some "https://sp/acs0" := by decide +kernel

end SamlVerif.TransIdP
