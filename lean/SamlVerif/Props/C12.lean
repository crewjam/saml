/-
  C12 — SP outbound messages survive their binding encodings; relay state intact.

  "Every AuthnRequest, LogoutRequest and LogoutResponse the SP produces - for any relay state and
   name ID that are valid UTF-8 text without NUL, any request ID and any configuration - is
   recoverable from the wire form it emits: the redirect URL's single SAMLRequest/SAMLResponse
   parameter inflates, and the POST form's field base64-decodes, to a well-formed message …, and the
   RelayState parameter round-trips byte-for-byte as a single parameter. … each message ID is fresh,
   derived from at least 128 bits drawn from the configured random source."

  Partial: `compress/flate` is outside the model (`msg` is the base64 text itself; that it inflates to the
  message is exercised by the correspondence).
-/
import SamlVerif.Proofs.Bindings
import SamlVerif.Proofs.Base64
import SamlVerif.Props.C14

namespace SamlVerif.Bindings
open SamlVerif.Codec

theorem C12_query_roundtrip (s : Bytes) : queryUnescape (queryEscape s) = some s := query_roundtrip s

theorem C12_base64_roundtrip (s : Bytes) : b64decode (b64encode s) = some s := b64_roundtrip s

/-- escaped values cannot terminate or split a parameter: no `&`, `=`, `;`, `#`, `?`, blank -/
theorem C12_escape_inert (s : Bytes) (c : UInt8) (hc : c ∈ queryEscape s) :
    c.toNat ≠ 38 ∧ c.toNat ≠ 61 ∧ c.toNat ≠ 59 ∧ c.toNat ≠ 35 ∧ c.toNat ≠ 63 ∧ c.toNat ≠ 32 :=
  escape_no_special s c hc

/-- **Redirect binding, AuthnRequest**: whatever the relay state and whatever query the IdP endpoint
    already has, the emitted query parses to the endpoint's own parameters followed by exactly one
    `SAMLRequest` and (for a non-empty relay state) exactly one `RelayState` carrying the relay state
    byte for byte. -/
theorem C12_redirect_params (q0 msg relay : Bytes) :
    parseQuery (redirectQuery q0 msg relay none) =
      ((parseQuery q0).1 ++ expectedParams msg relay, (parseQuery q0).2) := by
  show parseQuery (pre q0 ++ encodePair kSAMLRequest msg ++ _) = _
  unfold expectedParams
  split <;> simp [parseQuery_join, parseQuery_pre, parseQuery_encodePair]

theorem C12_redirect_params_signed (q0 msg relay alg : Bytes) (sign : Bytes → Bytes) :
    parseQuery (redirectQuery q0 msg relay (some (alg, sign))) =
      ((parseQuery q0).1 ++ expectedParams msg relay ++
        [(kSigAlg, alg), (kSignature, b64encode (sign (signedOctets msg relay alg)))], (parseQuery q0).2) := by
  show parseQuery (pre q0 ++ signedOctets msg relay alg ++ 38 :: _) = _
  simp [parseQuery_join, parseQuery_pre, signedOctets_params, parseQuery_encodePair]

/-- RelayState is a single parameter and round-trips byte for byte (endpoint query without a
    parameter of that name). -/
theorem C12_relay_single (q0 msg relay : Bytes) (h : relay ≠ [])
    (hq : countParam (parseQuery q0).1 kRelayState = 0) (hm : countParam (parseQuery q0).1 kSAMLRequest = 0) :
    let ps := (parseQuery (redirectQuery q0 msg relay none)).1
    countParam ps kRelayState = 1 ∧ getParam ps kRelayState = some relay ∧
    countParam ps kSAMLRequest = 1 ∧ getParam ps kSAMLRequest = some msg := by
  have e : kSAMLRequest ≠ kRelayState := by decide
  simp only [C12_redirect_params, countParam_append, getParam_append_of_absent _ _ _ hq,
    getParam_append_of_absent _ _ _ hm, hq, hm]
  simp [expectedParams, countParam, getParam, h, e, e.symm]

/-- The pinned assembly did not have this property: `a&b=c` as relay state arrives as `a` plus an
    injected parameter `b`. -/
theorem C12_pinned_injection :
    (parseQuery (redirectQueryPinned [] [84, 86, 78, 72] [97, 38, 98, 61, 99] none)).1 =
      [(kSAMLRequest, [84, 86, 78, 72]), (kRelayState, [97]), ([98], [99])] := by decide +kernel

/-- **Redirect binding, logout messages** (`Query().Set` + `Encode`): the emitted query parses back
    to exactly the value set that was encoded. -/
theorem C12_logout_roundtrip (vs : List (Bytes × Bytes)) :
    parseQuery (valuesEncode vs) = (vs.mergeSort (fun a b => lexLE a.1 b.1), true) :=
  parseQuery_encodePairs _

/-- … so the logout redirect URL carries exactly one message parameter and exactly one RelayState -/
theorem C12_logout_single (existing : List (Bytes × Bytes)) (key msg relay : Bytes)
    (hk : key ≠ kRelayState) (hr : relay ≠ []) :
    let ps := (parseQuery (logoutRedirectQuery existing key msg relay)).1
    countParam ps key = 1 ∧ countParam ps kRelayState = 1 := by
  -- `Encode` sorts, which permutes the pairs, and counting does not see a permutation
  simp [logoutRedirectQuery, hr, C12_logout_roundtrip, countParam_perm (List.mergeSort_perm _ _),
    countParam_valuesSet, hk]

/-! ### POST binding -/

open SamlVerif.Html

theorem nulToFFFD_b64encode (msg : Bytes) : nulToFFFD (b64encode msg) = b64encode msg :=
  nulToFFFD_id _ fun c hc => by
    have := b64encode_ge msg c hc
    omega

/-- the data `AuthnRequest.Post` / `LogoutRequest.Post` hand to the template -/
def postData (url msg relay : Bytes) : Bytes → Bytes :=
  fun f => if f = B "URL" then url else if f = B "SAMLRequest" then b64encode msg else if f = B "RelayState" then relay else []

/-- **POST binding**: for every message, every relay state without NUL and every destination, the
    quoted string after ` name="SAMLRequest" value=` of the emitted form, read as an HTML attribute
    value, base64-decodes to the message, and the one after ` name="RelayState" value=` reads back as
    the relay state byte for byte; the form has no other quoted string that depends on them.
    (`t` is any template with the skeleton `spRequestForm`; `C14_form_skeletons` shows that the
    templates of the current source have it.) -/
theorem C12_post_form (t : Bytes) (ht : skelT (parseTemplate t) = spRequestForm)
    (hk : holesKnown (skel (parseTemplate t)) = true) (url msg relay : Bytes) (hr : ∀ c ∈ relay, c.toNat ≠ 0) :
    ((pieces (render t (postData url msg relay)))[11]?.map htmlUnescape).bind b64decode = some msg ∧
    (pieces (render t (postData url msg relay)))[17]?.map htmlUnescape = some relay ∧
    (pieces (render t (postData url msg relay))).length = 27 := by
  obtain ⟨-, h11, h17, hlen⟩ := C14_sp_request_fields t ht hk (postData url msg relay)
  rw [h11, h17, hlen]
  simp [postData, B, htmlUnescape_htmlEscape, nulToFFFD_b64encode, nulToFFFD_id relay hr, b64_roundtrip]

def postDataResponse (url msg relay : Bytes) : Bytes → Bytes :=
  fun f => if f = B "URL" then url else if f = B "SAMLResponse" then b64encode msg else if f = B "RelayState" then relay else []

/-- the same for `LogoutResponse.Post` (field `SAMLResponse`) -/
theorem C12_post_form_response (t : Bytes) (ht : skelT (parseTemplate t) = spResponseForm)
    (hk : holesKnown (skel (parseTemplate t)) = true) (url msg relay : Bytes) (hr : ∀ c ∈ relay, c.toNat ≠ 0) :
    ((pieces (render t (postDataResponse url msg relay)))[11]?.map htmlUnescape).bind b64decode = some msg ∧
    (pieces (render t (postDataResponse url msg relay)))[17]?.map htmlUnescape = some relay ∧
    (pieces (render t (postDataResponse url msg relay))).length = 27 := by
  have hole := pieces_render_hole (postDataResponse url msg relay) (parseTemplate t) hk
  rw [ht] at hole
  rw [render, hole 11 .attr (B "SAMLResponse") rfl, hole 17 .attr (B "RelayState") rfl,
    pieces_render_tidy _ _ hk, ht]
  simp [postDataResponse, B, escapeFor, htmlUnescape_htmlEscape, nulToFFFD_b64encode, nulToFFFD_id relay hr,
    b64_roundtrip]
  rfl

/-- **Obligation at the regenerated templates**: the three POST templates of `service_provider.go` in the
    current source have these skeletons and known escapers (so the two theorems above apply to them) -/
theorem C12_post_templates :
    (Facts.templates.filter (fun t => t.1 = "service_provider.go")).map
        (fun t => (skelT (parseTemplate t.2.2), holesKnown (skel (parseTemplate t.2.2)))) =
      [(spRequestForm, true), (spRequestForm, true), (spResponseForm, true)] := by
  -- `C14_holes_known` gives the second components, `C14_form_skeletons` filtered by file the first
  rw [List.map_congr_left (g := fun t => (skelT (parseTemplate t.2.2), true))
    fun t ht => by rw [C14_holes_known t (List.mem_filter.mp ht).1]]
  simpa [List.filter_map, Function.comp_def] using
    congrArg (fun l => (l.filter (fun x => x.1 = "service_provider.go")).map (fun x => (x.2, true))) C14_form_skeletons

/-- non-vacuity: a relay state full of metacharacters meets the hypothesis -/
example : ∀ c ∈ SamlVerif.Html.B "a&b=\"c\"<d>'e'+%", c.toNat ≠ 0 := by decide +kernel

/-! ### message IDs -/

/-- IDs are `"id-"` followed by the lower-case hex of the random bytes: distinct draws give
    distinct IDs, and the ID exposes 2 hex digits per random byte. -/
theorem C12_id_injective (r1 r2 : Bytes) (h : messageID r1 = messageID r2) : r1 = r2 :=
  hexBytes_inj _ _ (List.append_cancel_left h)

theorem C12_id_length (r : Bytes) : (messageID r).length = 3 + 2 * r.length := by
  unfold messageID
  rw [List.length_append, hexBytes_length]
  rfl

/-- obligation at the regenerated facts: every `randomBytes(n)` call site draws at least 128 bits -/
theorem C12_id_bits : ∀ n ∈ Facts.idRandomBytes, 128 ≤ n * 8 := by decide

theorem C12_id_sites_found : Facts.idRandomBytes ≠ [] := by decide

example : (parseQuery (redirectQuery [102, 111, 111, 61, 98, 97, 114] [84, 86, 78, 72] [97, 38, 98, 61, 99, 35, 102, 114, 97, 103, 32, 100] none)).1 =
    [([102, 111, 111], [98, 97, 114]), (kSAMLRequest, [84, 86, 78, 72]), (kRelayState, [97, 38, 98, 61, 99, 35, 102, 114, 97, 103, 32, 100])] := by decide +kernel

end SamlVerif.Bindings
