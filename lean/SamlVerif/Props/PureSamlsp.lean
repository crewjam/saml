/-
  The models' reading of "for all sequences of message creations / validations" — package samlsp.

  Every model of a middleware / tracker / codec method is a *function* of the configuration value and the message, so a
  sequence of calls is the single call repeated and the per-call theorems hold for every call of every
  sequence.  That is the code's behaviour only while the code keeps no state between calls.  These are
  obligations at the regenerated hidden-state facts (extract/state.go): no unexported field in `Middleware`, `CookieRequestTracker`, `CookieSessionProvider`, `JWTSessionCodec`, `JWTTrackedRequestCodec`, no assignment through their pointer receivers, no package-level variable other than error values.
  A cache on the configuration value, a buffer pool or memo table at package level, break one of them
  whatever the generators happen to reach (the harness's stateful sequences are the search for the
  failing history).
-/
import SamlVerif.Generated.Facts

namespace SamlVerif.Pure

theorem Pure_samlsp_no_hidden_fields : Facts.configUnexportedFields_samlsp = [] := rfl

theorem Pure_samlsp_no_receiver_writes : Facts.configReceiverWrites_samlsp = [] := rfl

theorem Pure_samlsp_package_state : Facts.packageState_samlsp = [] := rfl

end SamlVerif.Pure
