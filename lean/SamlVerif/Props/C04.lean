/-
  C04 — SP accepts only responses to requests it has outstanding (unless IdP-initiated).

  "Unless IdP-initiated login is explicitly allowed or the application installs its own request-ID
   validator, a response is accepted only if its InResponseTo - and the InResponseTo of every
   subject confirmation of the accepted assertion - equals one of the request IDs the caller
   declares outstanding; with no outstanding IDs nothing is accepted, and an empty or absent
   InResponseTo matches only an explicitly listed empty ID.  An artifact response is additionally
   accepted only if it answers exactly the ArtifactResolve request the SP just issued.  A valid
   response to an outstanding request is accepted."

  (An absent InResponseTo attribute unmarshals to the empty string; both are `""` here.)
-/
import SamlVerif.Props.C03
import SamlVerif.Model.Middleware

namespace SamlVerif.SP

theorem C04_sound (cfg : Cfg) (now : Int) (ids : List String) (url : String) (need : Need)
    (respSig : SigState) (r : ResponseS) (a : AssertionS)
    (hidp : cfg.allowIdP = false) (hcust : cfg.reqIdValidator = none)
    (h : parseResponse cfg now ids url need respSig r = .ok a) :
    r.inResponseTo ∈ ids ∧
    ∃ scs, a.subject = some scs ∧ ∀ sc ∈ scs, ∃ d, sc.data = some d ∧ d.inResponseTo ∈ ids := by
  obtain ⟨hr, e, -, hg, rfl⟩ := accept_sound h
  exact ⟨by simpa [ReqIdOK, hcust, hidp] using hr.reqId,
    hg.valid.forall_conf fun _ h _ _ => h hidp⟩

/-- With no outstanding IDs nothing is accepted. -/
theorem C04_empty (cfg : Cfg) (now : Int) (url : String) (need : Need)
    (respSig : SigState) (r : ResponseS)
    (hidp : cfg.allowIdP = false) (hcust : cfg.reqIdValidator = none) :
    ∀ a, parseResponse cfg now [] url need respSig r ≠ .ok a :=
  fun _ h => List.not_mem_nil (C04_sound _ _ _ _ _ _ _ _ hidp hcust h).1

/-- An empty or absent InResponseTo matches only an explicitly listed empty ID. -/
theorem C04_absent (cfg : Cfg) (now : Int) (ids : List String) (url : String) (need : Need)
    (respSig : SigState) (r : ResponseS) (a : AssertionS)
    (hidp : cfg.allowIdP = false) (hcust : cfg.reqIdValidator = none)
    (h : parseResponse cfg now ids url need respSig r = .ok a) (he : r.inResponseTo = "") :
    "" ∈ ids :=
  he ▸ (C04_sound _ _ _ _ _ _ _ _ hidp hcust h).1

/-- With a custom validator the response-level test is the validator's verdict; the
    confirmation-level test still applies unless IdP-initiated login is allowed. -/
theorem C04_custom (cfg : Cfg) (now : Int) (ids : List String) (url : String) (need : Need)
    (respSig : SigState) (r : ResponseS) (a : AssertionS) (f : ResponseS → List String → Bool)
    (hcust : cfg.reqIdValidator = some f)
    (h : parseResponse cfg now ids url need respSig r = .ok a) :
    f r ids = true ∧
    (cfg.allowIdP = false →
      ∃ scs, a.subject = some scs ∧ ∀ sc ∈ scs, ∃ d, sc.data = some d ∧ d.inResponseTo ∈ ids) := by
  obtain ⟨hr, e, -, hg, rfl⟩ := accept_sound h
  exact ⟨by simpa only [ReqIdOK, hcust] using hr.reqId,
    fun hidp => hg.valid.forall_conf fun _ h _ _ => h hidp⟩

/-- An artifact response is accepted only if it answers exactly the ArtifactResolve just issued,
    and the inner response is then subject to the same request-ID rule. -/
theorem C04_artifact (cfg : Cfg) (now : Int) (ids : List String) (resolveId url : String)
    (ar : ArtifactResponseS) (a : AssertionS)
    (h : parseArtifactResponse cfg now ids resolveId url ar = .ok a) :
    ar.inResponseTo = resolveId ∧
    (cfg.allowIdP = false → cfg.reqIdValidator = none →
      ∃ rs r, ar.response = some (rs, r) ∧ r.inResponseTo ∈ ids) := by
  obtain ⟨h1, _, _, _, _, rs, r, hr, hp⟩ := (artifact_accept_iff ..).mp h
  exact ⟨h1, fun hidp hcust => ⟨rs, r, hr, (C04_sound _ _ _ _ _ _ _ _ hidp hcust hp).1⟩⟩

/-- A valid response to an outstanding request is accepted. -/
theorem C04_complete (cfg : Cfg) (now : Int) (ids : List String) (url : String) (need : Need)
    (respSig : SigState) (r : ResponseS)
    (hr : RespOK cfg now ids url need respSig r)
    (he : ∃ e ∈ r.entries, EntryGood cfg now ids (needAfter need respSig) e) :
    ∃ a, parseResponse cfg now ids url need respSig r = .ok a :=
  accept_exists_iff.mpr ⟨hr, he⟩

/-! ### What the middleware hands to the validator (samlsp/middleware.go ServeACS) -/

open SamlVerif.MW in
/-- The IDs the middleware declares outstanding are exactly the IDs of the authentic tracking
    cookies in the request (plus `""` when IdP-initiated login is allowed). -/
theorem C04_middleware_ids (allowIdP : Bool) (tracked : List TrackedRequest) (id : String)
    (h : id ∈ possibleRequestIDs allowIdP tracked) :
    (allowIdP = true ∧ id = "") ∨ ∃ t ∈ tracked, t.samlRequestID = id := by
  simpa [possibleRequestIDs] using h

example : parseResponse exCfg 1090000 ["other", "id-1"] "https://sp/acs" .required .absent exResp
    = .ok exGood := by decide +kernel
example : parseResponse exCfg 1090000 ["id-10", "id-"] "https://sp/acs" .required .absent exResp
    = .err "response-inresponseto" := by decide +kernel

end SamlVerif.SP
