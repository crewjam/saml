/-
  C18 on the regenerated entry points: `ServiceProvider.ValidateLogoutResponseForm` and `ValidateLogoutResponseRedirect` from the
  statement `if err := sp.validateSignature(doc.Root()); err != nil {` to the end (`Trans.logoutFormTail`,
  `Trans.logoutRedirectTail`; the root of the document parsed just before is the unknown `env.docRoot`, signature validation and
  unmarshalling are arbitrary functions, `validateLogoutResponse` is the translated one).
-/
import SamlVerif.Props.TransSP
open SamlVerif SamlVerif.GoSem
namespace SamlVerif.TransSP

theorem logoutFormTail_cases (env : Trans.Env) (sp : Trans.ServiceProvider) (retErr : GoError) (res : GoError)
    (h : Trans.logoutFormTail env sp retErr = .ok res) :
    (∃ e, env.validateSignature sp env.docRoot = .ok (some e) ∧ res = retErr) ∨
    (env.validateSignature sp env.docRoot = .ok none ∧
      ((∃ r e, env.unmarshalElement_LogoutResponse env.docRoot = .ok (r, some e) ∧ res = retErr) ∨
       (∃ r, env.unmarshalElement_LogoutResponse env.docRoot = .ok (r, none) ∧
          Trans.validateLogoutResponse env sp (some r) = .ok res))) := by
  unfold Trans.logoutFormTail at h
  simp only [go_inv] at h
  obtain ⟨se, hs, ⟨hne, rfl⟩ | ⟨rfl, r, ue, hu, ⟨hne, rfl⟩ | ⟨rfl, hv⟩⟩⟩ := h
  · obtain ⟨e, rfl⟩ := Option.ne_none_iff_exists'.1 hne
    exact Or.inl ⟨e, hs, rfl⟩
  · obtain ⟨e, rfl⟩ := Option.ne_none_iff_exists'.1 hne
    exact Or.inr ⟨hs, Or.inl ⟨r, e, hu, rfl⟩⟩
  · exact Or.inr ⟨hs, Or.inr ⟨r, hu, hv⟩⟩

/-- the redirect encoding runs the same tail -/
theorem logoutTails_agree (env : Trans.Env) (sp : Trans.ServiceProvider) (retErr : GoError) :
    Trans.logoutRedirectTail env sp retErr = Trans.logoutFormTail env sp retErr := rfl

/-- C18: reported valid ⇒ the root's signature validated (an absent signature does not), and the message is addressed to the SP's
    logout URL, fresh, from the IdP and Success -/
theorem logoutTail_sound (env : Trans.Env) (sp : Trans.ServiceProvider) (idp : Trans.EntityDescriptor) (retErr : GoError)
    (hret : retErr ≠ none) (hidp : sp.IDPMetadata = some idp)
    (h : Trans.logoutFormTail env sp retErr = .ok none ∨ Trans.logoutRedirectTail env sp retErr = .ok none) :
    env.validateSignature sp env.docRoot = .ok none ∧
    ∃ r, env.unmarshalElement_LogoutResponse env.docRoot = .ok (r, none) ∧
      r.Destination = sp.SloURL.str ∧ env.timeNow ≤ r.IssueInstant + env.MaxIssueDelay ∧
      (∃ i, r.Issuer = some i ∧ i.Value = idp.EntityID) ∧ r.Status.StatusCode.Value = env.StatusSuccess := by
  rcases logoutFormTail_cases env sp retErr none (h.elim id id) with ⟨e, _, hr⟩ | ⟨hs, ⟨r, e, _, hr⟩ | ⟨r, hu, hv⟩⟩
  · exact absurd hr.symm hret
  · exact absurd hr.symm hret
  · exact ⟨hs, r, hu, (Trans_validateLogoutResponse_iff env sp idp r hidp).mp hv⟩

/-- an unsigned logout response is refused: the validator's "no Signature element" answer is an error like any other here (these
    tails are not told to tolerate it, unlike the response parser) -/
theorem logoutTail_unsigned_refused (env : Trans.Env) (sp : Trans.ServiceProvider) (retErr : GoError) (hret : retErr ≠ none)
    (hsent : env.errSignatureElementNotPresent ≠ none)
    (hs : env.validateSignature sp env.docRoot = .ok env.errSignatureElementNotPresent) :
    Trans.logoutFormTail env sp retErr = .ok retErr := by
  unfold Trans.logoutFormTail
  simp [hs, Option.isSome_iff_ne_none, hsent]

end SamlVerif.TransSP
