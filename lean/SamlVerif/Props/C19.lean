/-
  C19 — The bundled IdP server issues assertions only to authenticated users.

  "The bundled IdP server emits a SAML response only for a user who presented that user's current
   password or the cookie of a stored, unexpired session created by such a login, and only towards a
   service provider that is registered at that moment.  For every history of user, session, service
   and shortcut management calls, logins, SSO and IdP-initiated requests and clock advances - and
   every pattern of backing-store failures - no other request obtains an assertion, the assertion
   describes the user as stored at login, stored password hashes are never disclosed, and each
   request receives exactly one well-formed HTTP reply.  A server re-created over the same store at
   any point between requests continues every history exactly as the original would."

  `step` returns exactly one reply per request by construction; on the real server that is tested by
  the harness, not proved.  Password hashing is symbolic.
-/
import SamlVerif.Proofs.IdpServer

namespace SamlVerif.IdpServer

/-! ### who obtains an assertion -/

/-- **Authentication**: whatever the state, the faults and the request, a reply that carries a SAML
    response for user `u` with profile `prof` comes from a session obtained in one of the two
    legitimate ways — the request presented the password of the stored user record (and the
    assertion describes that record), or the cookie of a stored session that has not expired (and the
    assertion describes that session's snapshot). -/
theorem C19_authn (s : State) (fs : List Fault) (req : Req) (u prof e relay : String)
    (h : (step s fs req).2.body = .saml u prof e relay) :
    ∃ id σ c, SessionVia s (credOf req) (cookieOf req) (allowCredOf req) id σ c ∧ σ.user = u ∧ σ.profile = prof := by
  obtain ⟨id, σ, c, _, hvia, hu, hp, _⟩ := step_saml h
  exact ⟨id, σ, c, hvia, hu, hp⟩

/-- **Registered at that moment**: a SAML response for SSO goes to the entity the request named, and
    that entity is in the registry when the request is processed. -/
theorem C19_registered_sso (s : State) (fs : List Fault) (entity : String) (v : Bool) (cred : Cred)
    (cookie : Option String) (relay u prof e relay' : String)
    (h : (step s fs (.sso entity v cred cookie relay)).2.body = .saml u prof e relay') :
    ∃ md, s.registry entity = some md ∧ md.entityID = e ∧ md.hasPostACS = true ∧ v = true ∧ relay' = relay := by
  obtain ⟨_, _, _, md, _, _, _, ⟨hv, hrelay, hreg⟩, he, hacs⟩ := step_saml h
  exact ⟨md, hreg, he, hacs, hv, hrelay.symm⟩

/-! ### invariants over histories -/

/-- a predicate of the state and the history still to come that every request preserves holds at the end -/
theorem run_inv {Q : State → List (Req × List Fault) → Prop}
    (hstep : ∀ s r fs rest, Q s ((r, fs) :: rest) → Q (step s fs r).1 rest) :
    ∀ hist s, Q s hist → Q (run s hist).1 []
  | [], _, h => h
  | (r, fs) :: rest, s, h => run_inv hstep rest _ (hstep s r fs rest h)

/-- every stored session was created by a successful password login, and snapshots the user record the
    password was checked against -/
structure SessionsFromLogins (s : State) : Prop where
  log : ∀ x ∈ s.loginLog, x.2.2.1.hash = some x.2.2.2 ∧ x.2.1.user ≠ "" ∧ x.2.1.profile = x.2.2.1.profile
  origin : ∀ sid σ, s.store.sessions.get sid = some σ → ∃ usr p, (sid, σ, usr, p) ∈ s.loginLog

theorem GetSession.sessions_inv {s cred cookie allow s' res} (hg : GetSession s cred cookie allow s' res)
    (h : SessionsFromLogins s) : SessionsFromLogins s' := by
  cases hg with
  | wrote | cookie => exact h
  | login usr p _ hpw hu hprof =>
    refine ⟨List.forall_mem_cons.mpr ⟨⟨hpw, hu, hprof⟩, h.log⟩, fun sid σ hget => ?_⟩
    rw [Map.get_put] at hget
    split at hget
    · cases hget
      exact ⟨usr, p, ‹sid = _› ▸ List.mem_cons_self⟩
    · obtain ⟨usr', p', hm⟩ := h.origin sid σ hget
      exact ⟨usr', p', List.mem_cons_of_mem _ hm⟩

theorem getSession_sessions_only (s : State) (fs : List Fault) (cred : Cred) (cookie : Option String) (allow : Bool) :
    (getSession s fs cred cookie allow).1.store.users = s.store.users ∧
    (getSession s fs cred cookie allow).1.store.services = s.store.services ∧
    (getSession s fs cred cookie allow).1.store.shortcuts = s.store.shortcuts ∧
    (getSession s fs cred cookie allow).1.registry = s.registry ∧
    (getSession s fs cred cookie allow).1.now = s.now := (getSession_spec s fs cred cookie allow).frame

/-- the session invariant is preserved by every request, under every fault pattern: sessions appear only
    through `getSession`, which logs them, and disappear through `deleteSession` -/
theorem Step.sessions_inv {s fs req s' r} (ht : Step s fs req s' r) (h : SessionsFromLogins s) :
    SessionsFromLogins s' := by
  cases ht with
  | session hg | saml _ _ hg => exact hg.sessions_inv h
  | deleteSession id =>
    refine ⟨h.log, fun sid σ hget => ?_⟩
    rw [Map.get_del, Option.ite_none_left_eq_some] at hget
    exact h.origin sid σ hget.2
  | _ => exact ⟨h.log, h.origin⟩

/-- `SessionsFromLogins` holds after every history from the empty server (any length, any faults) -/
theorem C19_sessions_from_logins (hist : List (Req × List Fault)) : SessionsFromLogins (run init hist).1 :=
  run_inv (Q := fun s _ => SessionsFromLogins s) (fun s r fs _ => (step_spec s fs r).sessions_inv) hist init
    ⟨(fun _ h => nomatch h), fun _ _ h => nomatch h⟩

/-- **Assertion describes the user as stored at login**: in a reachable state, a SAML response
    obtained through a session cookie describes a user record whose password was presented when the
    session was created. -/
theorem C19_snapshot (s : State) (hinv : SessionsFromLogins s) (fs : List Fault) (req : Req)
    (u prof e relay : String) (h : (step s fs req).2.body = .saml u prof e relay)
    (hnocred : credOf req = .none) :
    ∃ sid σ usr p, cookieOf req = some sid ∧ (sid, σ, usr, p) ∈ s.loginLog ∧ usr.hash = some p ∧
      usr.profile = prof ∧ σ.user = u ∧ ¬ s.now > σ.expire := by
  obtain ⟨id, σ, c, hvia, hu, hp⟩ := C19_authn s fs req u prof e relay h
  cases hvia with
  | password _ _ _ hcred => cases hnocred.symm.trans hcred
  | cookie hcookie hstored hfresh hc =>
    obtain ⟨usr, p, hm⟩ := hinv.origin id σ hstored
    have := hinv.log _ hm
    exact ⟨id, σ, usr, p, hcookie, hm, this.1, by rw [← this.2.2, hp], hu, hfresh⟩

/-! ### the registry is in step with the stored services; restart transparency -/

structure RegInv (s : State) : Prop where
  unique : UniqueKeys s.store.services
  distinct : DistinctEntities s.store.services
  spec : RegSpec s.registry s.store.services

/-- the request does not give a second service name the entity ID of another stored service
    (what happens otherwise: `C19_restart_duplicate_counterexample`; with different metadata under one
    entity ID the registry a restart builds also depends on Go's map iteration order) -/
def StepOK (s : State) : Req → Prop
  | .putService id (some m) => ∀ id' m', id' ≠ id → s.store.services.get id' = some m' → m'.entityID ≠ m.entityID
  | _ => True

/-- the backing store does not answer "not found" for a key it holds (I/O errors are unrestricted) -/
def Truthful (fs : List Fault) : Prop := ∀ f ∈ fs, f ≠ .notFound

theorem nextFault_ne_notFound {fs : List Fault} (h : Truthful fs) : (nextFault fs).1 ≠ .notFound := by
  cases fs with
  | nil => exact fun h => nomatch h
  | cons f r => exact h f List.mem_cons_self

theorem init_regInv : RegInv init :=
  ⟨List.nodup_nil, (fun _ _ _ _ h => nomatch h), .nil⟩

/-- only `putService`, `deleteService` and `restart` touch services or registry; an overwrite is a
    deletion followed by a fresh registration -/
theorem Step.reg_inv {s fs req s' r} (ht : Step s fs req s' r) (h : RegInv s) (hok : StepOK s req)
    (hf : Truthful fs) : RegInv s' := by
  cases ht with
  -- services and registry of the new state reduce to those of `s`
  | frame | deleteSession => exact ⟨h.unique, h.distinct, h.spec⟩
  | session hg | saml _ _ hg => cases hg <;> exact ⟨h.unique, h.distinct, h.spec⟩
  | restart => exact ⟨h.unique, h.distinct, registryOf_spec _ h.unique h.distinct⟩
  | deleteService id m hget =>
    have := h.spec.del h.distinct id
    rw [hget] at this
    exact ⟨uniqueKeys_del _ _ h.unique, h.distinct.del id, this⟩
  | putService id m old hold =>
    obtain rfl := hold (nextFault_ne_notFound hf)
    have hfresh : ∀ id' m', (s.store.services.del id).get id' = some m' → m'.entityID ≠ m.entityID := by
      intro id' m' hg
      rw [Map.get_del, Option.ite_none_left_eq_some] at hg
      exact hok id' m' hg.1 hg.2
    exact ⟨uniqueKeys_put _ _ _ h.unique, (h.distinct.del id).cons hfresh,
      (h.spec.del h.distinct id).cons (by rw [Map.get_del, if_pos rfl]) hfresh⟩

/-- **Restart transparency** (`_partial`: under `RegInv`, i.e. for histories that never give two service
    names one entity ID — the full statement "for every reachable state" is false, see
    `C19_restart_duplicate_counterexample` below): in a state where the registry is in step with the
    store, re-creating the server over the same store yields *the same state* — so every continuation of
    the history, with every fault pattern, gets exactly the same replies. -/
theorem C19_restart_partial (s : State) (h : RegInv s) : restart s = s := by
  rw [restart, (registryOf_spec _ h.unique h.distinct).unique h.spec]

/-- **The excluded point, run**: what happens without `StepOK`, and the real server does the same
    (known finding `c19-duplicate-entity-restart`).
    `PUT /services/a` and `PUT /services/b` with the same entity ID, then `DELETE /services/a`: service
    `b` is still stored with that entity ID, the running server no longer serves it, and a server
    re-created over the same store serves it again — the restart is observable. -/
theorem C19_restart_duplicate_counterexample :
    let md : Md := ⟨"https://sp.example.com/md", true, "m"⟩
    let s := (run init [(.putService "a" (some md), []), (.putService "b" (some md), []), (.deleteService "a", [])]).1
    s.store.services.get "b" = some md ∧ s.registry md.entityID = none ∧ (restart s).registry md.entityID = some md := by
  decide +kernel

theorem C19_restart_continues (s : State) (h : RegInv s) (hist : List (Req × List Fault)) :
    run (restart s) hist = run s hist := by rw [C19_restart_partial s h]

/-- well-behaved histories: no duplicate entity IDs are introduced, and the store does not lie about
    absence -/
def HistOK : State → List (Req × List Fault) → Prop
  | _, [] => True
  | s, (r, fs) :: rest => StepOK s r ∧ Truthful fs ∧ HistOK (step s fs r).1 rest

/-- the registry invariant holds after every well-behaved history from the empty server, so a restart
    may be inserted at *any* position -/
theorem C19_registry_in_step (hist : List (Req × List Fault)) (h : HistOK init hist) : RegInv (run init hist).1 :=
  (run_inv (Q := fun s hist => RegInv s ∧ HistOK s hist)
    (fun s r fs _ ⟨hs, hok, hf, hrest⟩ => ⟨(step_spec s fs r).reg_inv hs hok hf, hrest⟩) hist init ⟨init_regInv, h⟩).1

/-- **Registered at that moment, against the store**: in a reachable state the entity an assertion is
    issued towards is the metadata of a currently stored service. -/
theorem C19_registered_stored (s : State) (hinv : RegInv s) (fs : List Fault) (entity : String) (v : Bool)
    (cred : Cred) (cookie : Option String) (relay u prof e relay' : String)
    (h : (step s fs (.sso entity v cred cookie relay)).2.body = .saml u prof e relay') :
    ∃ id md, s.store.services.get id = some md ∧ md.entityID = entity ∧ e = entity := by
  obtain ⟨md, hreg, he, _⟩ := C19_registered_sso s fs entity v cred cookie relay u prof e relay' h
  obtain ⟨id, hg, hent⟩ := (hinv.spec entity md).mp hreg
  exact ⟨id, md, hg, hent, by rw [← he, hent]⟩

/-! ### stored hashes are never disclosed -/

/-- No constructor of `Body` carries a password hash, and the only place a hash is read is the
    comparison in `getSession`; concretely: reading a user back never returns more than name and
    profile, whatever the stored hash. -/
theorem C19_no_hash_in_user_reply (s : State) (fs : List Fault) (name : String) :
    (step s fs (.getUser name)).2.body = .empty ∨
    ∃ prof, (step s fs (.getUser name)).2.body = .userJson name prof := by
  simp only [step]
  split
  · next u _ => exact Or.inr ⟨u.profile, rfl⟩
  · exact Or.inl rfl

/-! ### the password domain (fix 791b1c9) -/

/-- a password bcrypt cannot tell apart from others (longer than 72 bytes, or containing NUL) is refused
    at PUT: nothing is stored -/
theorem C19_unusable_password_refused (s : State) (fs : List Fault) (name profile p : String)
    (h : validPw p = false) : step s fs (.putUser name profile (some p)) = (s, st 400) :=
  if_pos h

/-- such a password never creates a session from form credentials, whatever is stored: a session
    returned without Set-Cookie (`c = none`) is the cookie's, not a new login -/
theorem C19_unusable_password_no_session (s : State) (fs : List Fault) (u p : String) (cookie : Option String)
    (allow : Bool) (h : validPw p = false) (s' : State) (fs' : List Fault) (id : String) (σ : SessionRec) (c : Option String)
    (hg : getSession s fs (.form u p) cookie allow = (s', fs', .session id σ c)) : c = none := by
  cases (GetSession.of_eq hg).via with
  | cookie _ _ _ hc => exact hc
  | password _ _ _ hcred _ _ _ hvalid _ _ =>
    cases hcred
    cases h.symm.trans hvalid

/-- `n` copies of a character other than NUL: only the byte length matters -/
theorem validPw_replicate (n : Nat) (c : Char) (hc : c ≠ Char.ofNat 0) :
    validPw (String.ofList (List.replicate n c)) = decide (n * c.utf8Size ≤ 72) := by
  simp [validPw, List.map_replicate, List.sum_replicate_nat, List.mem_replicate, hc.symm]

example : validPw "pw-d\x00pw-d" = false ∧ validPw (String.ofList (List.replicate 73 'k')) = false ∧
    validPw (String.ofList (List.replicate 72 'k')) = true ∧ validPw "pw-d" = true ∧ validPw "" = true := by
  -- the two long passwords by `validPw_replicate`: evaluating `String.ofList (replicate 73 _)` is dear
  refine ⟨by decide, ?_, ?_, by decide, by decide⟩
  all_goals
    rw [validPw_replicate _ _ (by decide)]
    decide

/-! Non-vacuity: a concrete history with an overwrite under a new entity ID, a restart in the middle,
    a wrong password, a deleted user with a live session, an expired session. -/
def mdA : Md := ⟨"https://a/md", true, "A"⟩
def mdB : Md := ⟨"https://b/md", true, "B"⟩
def exHist : List (Req × List Fault) :=
  [(.putUser "alice" "alice-profile" (some "pw"), []), (.putService "svc" (some mdA), []),
   (.sso "https://a/md" true (.form "alice" "bad") none "rs", []),
   (.sso "https://a/md" true (.form "alice" "pw") none "rs", []),
   (.putService "svc" (some mdB), []),
   (.sso "https://a/md" true .none (some "s0") "rs", []),      -- old entity: no longer registered
   (.restart, []),
   (.sso "https://b/md" true .none (some "s0") "rs", []),
   (.deleteUser "alice", []),
   (.sso "https://b/md" true .none (some "s0") "rs2", []),     -- session outlives the user record
   (.advance 3601, []),
   (.sso "https://b/md" true .none (some "s0") "rs", [])]

example : (run init exHist).2.map (fun r => (r.status, r.body)) =
    [(204, .empty), (204, .empty), (200, .loginForm), (200, .saml "alice" "alice-profile" "https://a/md" "rs"),
     (204, .empty), (400, .empty), (0, .empty), (200, .saml "alice" "alice-profile" "https://b/md" "rs"),
     (204, .empty), (200, .saml "alice" "alice-profile" "https://b/md" "rs2"), (0, .empty), (200, .loginForm)] := by
  decide +kernel

example : HistOK init [(.putService "svc" (some mdA), []), (.putService "svc" (some mdB), [.ioErr])] := by
  refine ⟨?_, by simp [Truthful], ?_, by simp [Truthful], trivial⟩
  · intro id' m' _ hg
    nomatch hg
  · intro id' m' hne hg
    change Map.get [("svc", mdA)] id' = some m' at hg
    rw [Map.get_cons, if_neg hne] at hg
    cases hg

end SamlVerif.IdpServer
