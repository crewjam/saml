/-
  C18 — Logout responses are valid only if IdP-signed, fresh and addressed to this SP.

  "A logout response, in POST or redirect encoding, is reported valid only if it carries an
   enveloped signature verifying under a trusted IdP certificate, is addressed to the SP's logout
   URL, was issued by the configured IdP no longer than MaxIssueDelay ago and has status Success.
   A well-formed logout response meeting all of these is reported valid, and every other input
   yields an error."
-/
import SamlVerif.Model.Logout
import SamlVerif.Proofs.Outcome

namespace SamlVerif.Logout
open SamlVerif.SP

structure Valid (cfg : Cfg) (now : Int) (d : Doc) : Prop where
  ex : ∃ r, d = .root .valid (some r) ∧ r.destination = cfg.sloURL ∧ now ≤ r.issueInstant + cfg.delay ∧
        r.issuer = some cfg.idpEntityID ∧ r.status = cfg.statusSuccess

/-- **Soundness and completeness in one**: reported valid exactly when signed (root signature
    verified), addressed, fresh, from the configured IdP and successful. -/
theorem C18_valid_iff (cfg : Cfg) (now : Int) (d : Doc) : validate cfg now d = .ok () ↔ Valid cfg now d := by
  refine Iff.trans ?_ ⟨Valid.mk, Valid.ex⟩
  rcases d with _ | _ | ⟨sig, _ | ⟨dest, ii, _ | i, st⟩⟩ <;>
    simp [validate, validateFields, ite_eq_iff', and_assoc]

/-- every other input yields an error — never a panic, never "valid" -/
theorem C18_total (cfg : Cfg) (now : Int) (d : Doc) :
    validate cfg now d = .ok () ∨ ∃ e, validate cfg now d = .err e := by
  refine Outcome.ok_or_err.mpr fun w => ?_
  fun_cases validate cfg now d <;> simp
  fun_cases validateFields cfg now _ <;> simp

theorem C18_unsigned_rejected (cfg : Cfg) (now : Int) (sig : SigState) (r : Option LogoutRespS)
    (h : sig ≠ .valid) : validate cfg now (.root sig r) = .err "signature" := by
  simp [validate, h]

/-- Both encodings go through the same validator: with `inflate (deflate b) = b`, the redirect
    decoding of the deflated bytes and the POST decoding of the bytes yield the same `Doc`, hence the
    same verdict. -/
theorem C18_encodings_agree (cfg : Cfg) (now : Int) (decodeXML : Bytes → Doc)
    (inflate deflate : Bytes → Option Bytes) (b z : Bytes)
    (hz : deflate b = some z) (hinv : inflate z = some b) :
    validate cfg now (match inflate z with | some x => decodeXML x | none => .undecodable) =
    validate cfg now (decodeXML b) := by
  rw [hinv]

/-- the pinned tree panicked on a document without root element and on a signed response without Issuer -/
theorem C18_pinned_panics (cfg : Cfg) (now : Int) :
    (validatePinned cfg now .noRoot).isPanic = true := rfl

example : validate ⟨"idp", "https://sp/slo", 90000, "Success"⟩ 1000
    (.root .valid (some ⟨"https://sp/slo", 500, some "idp", "Success"⟩)) = .ok () := by decide +kernel
example : Valid ⟨"idp", "https://sp/slo", 90000, "Success"⟩ 1000
    (.root .valid (some ⟨"https://sp/slo", 500, some "idp", "Success"⟩)) :=
  (C18_valid_iff _ _ _).mp (by decide +kernel)

end SamlVerif.Logout
