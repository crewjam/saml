/-
  Props/TransRegistry — the handlers of the bundled IdP server that write to its store (`Generated/TransSamlidp.lean`), first among
  them the provider registry (samlidp/service.go `Server.HandlePutService`, regenerated in full): C05 / C08 / C19, "an assertion
  goes only to a service provider that is registered at that moment", "the registered metadata".  The server's registry is a Go
  map from entity ID to metadata, modelled as an association list (`GoSem.mapSet / mapDelete / mapGet`, with their four lookup
  laws); the store, the request body's metadata parser and the path value are arbitrary functions; the registry lock is outside
  the translation (C20); writes to the store and replies are events.
-/
import SamlVerif.Generated.TransSamlidp
import SamlVerif.Proofs.GoInv
open SamlVerif SamlVerif.GoSem
namespace SamlVerif.TransRegistry
open TransI

def evNoContent : Event := ⟨"w.WriteHeader", ["StatusNoContent"]⟩
def evBadRequest : Event := ⟨"http.Error", ["StatusBadRequest"]⟩
def evServerError : Event := ⟨"http.Error", ["StatusInternalServerError"]⟩
def evStorePut (key : String) : Event := ⟨"Store.Put", [key]⟩
def evStoreDelete (key : String) : Event := ⟨"Store.Delete", [key]⟩
attribute [local simp] evNoContent evBadRequest evServerError evStorePut evStoreDelete

theorem putService_cases (env : Env) (s s' : Server) (w : ResponseWriter) (rq : HTTPRequest) (tr : List Event)
    (h : HandlePutService env s w (some rq) = .ok (s', tr)) :
    let key := "/services/" ++ env.pathValue rq "id"
    -- the body does not parse
    (s' = s ∧ tr = [evBadRequest] ∧ ∃ m e, env.getSPMetadata (some rq) = .ok (m, some e)) ∨
    (∃ md, env.getSPMetadata (some rq) = .ok (some md, none) ∧ ∃ prev pe, env.storeGet_Service key = .ok (prev, pe) ∧
      -- the store cannot say what was there
      ((pe ≠ none ∧ pe ≠ env.ErrNotFound ∧ s' = s ∧ tr = [evServerError]) ∨
       ((pe = none ∨ pe = env.ErrNotFound) ∧
         -- the store refuses the write
         ((∃ e, env.storePut_Service key { Metadata := md } = .ok (some e) ∧ s' = s ∧ tr = [evStorePut key, evServerError]) ∨
          -- success
          (env.storePut_Service key { Metadata := md } = .ok none ∧ tr = [evStorePut key, evNoContent] ∧
            s'.serviceProviders =
              mapSet (if pe = none ∧ prev.Metadata.EntityID ≠ md.EntityID then mapDelete s.serviceProviders prev.Metadata.EntityID
                      else s.serviceProviders) md.EntityID (some md)))))) := by
  intro key
  unfold HandlePutService at h
  simp only [go_inv] at h
  obtain ⟨m, me, hm, h⟩ := h
  rcases h with ⟨hc, rfl, rfl⟩ | ⟨rfl, md, rfl, prev, pe, hg, h⟩
  · obtain ⟨e, rfl⟩ := Option.ne_none_iff_exists'.1 hc
    exact Or.inl ⟨rfl, rfl, m, e, hm⟩
  refine Or.inr ⟨md, hm, prev, pe, hg, ?_⟩
  rcases h with ⟨hc, rfl, rfl⟩ | ⟨hc, pr, hp, h⟩
  · exact Or.inl ⟨hc.1, hc.2, rfl, rfl⟩
  refine Or.inr ⟨(Decidable.not_and_iff_not_or_not.1 hc).imp Decidable.not_not.1 Decidable.not_not.1, ?_⟩
  rcases h with ⟨hc, rfl, rfl⟩ | ⟨rfl, ⟨hd, rfl, rfl⟩ | ⟨hd, rfl, rfl⟩⟩
  · obtain ⟨e, rfl⟩ := Option.ne_none_iff_exists'.1 hc
    exact Or.inl ⟨e, hp, rfl, rfl⟩
  · exact Or.inr ⟨hp, rfl, by rw [if_pos hd]⟩
  · exact Or.inr ⟨hp, rfl, by rw [if_neg hd]⟩

/-- C05 / C08 / C19: a PUT that answered 204 has written the parsed metadata to the store first; after it the registry serves, under the entity ID of the metadata in the request, exactly
    that metadata — also when the same service re-registers under the same entity ID —; a previous entity ID of the same service
    name is gone; every other entity ID is served as before -/
theorem putService_success (env : Env) (s s' : Server) (w : ResponseWriter) (rq : HTTPRequest) (tr : List Event)
    (h : HandlePutService env s w (some rq) = .ok (s', tr)) (hok : evNoContent ∈ tr) :
    ∃ md prev pe, env.getSPMetadata (some rq) = .ok (some md, none) ∧
      env.storeGet_Service ("/services/" ++ env.pathValue rq "id") = .ok (prev, pe) ∧
      env.storePut_Service ("/services/" ++ env.pathValue rq "id") { Metadata := md } = .ok none ∧
      tr = [evStorePut ("/services/" ++ env.pathValue rq "id"), evNoContent] ∧
      mapGet s'.serviceProviders md.EntityID = some (some md) ∧
      (pe = none → prev.Metadata.EntityID ≠ md.EntityID → mapGet s'.serviceProviders prev.Metadata.EntityID = none) ∧
      (∀ k, k ≠ md.EntityID → ¬ (pe = none ∧ k = prev.Metadata.EntityID) → mapGet s'.serviceProviders k = mapGet s.serviceProviders k) := by
  rcases putService_cases env s s' w rq tr h with
    ⟨-, rfl, -⟩ | ⟨md, hm, prev, pe, hg, ⟨-, -, -, rfl⟩ | ⟨-, ⟨e, -, -, rfl⟩ | ⟨hp, ht, hreg⟩⟩⟩
  · simp at hok
  · simp at hok
  · simp at hok
  refine ⟨md, prev, pe, hm, hg, hp, ht, ?_, ?_, ?_⟩
  · rw [hreg, mapGet_mapSet_self]
  · intro h1 h2
    rw [hreg, mapGet_mapSet_other _ _ _ _ h2, if_pos ⟨h1, h2⟩]
    exact mapGet_mapDelete_self _ _
  · intro k hk hnot
    rw [hreg, mapGet_mapSet_other _ _ _ _ hk]
    split
    · exact mapGet_mapDelete_other _ _ _ fun e => hnot ⟨‹_ ∧ _›.1, e⟩
    · rfl

/-- a PUT that does not answer 204 (unparsable body, a store that fails to read or to write) leaves the registry as it was and
    answers with one error -/
theorem putService_failure (env : Env) (s s' : Server) (w : ResponseWriter) (rq : HTTPRequest) (tr : List Event)
    (h : HandlePutService env s w (some rq) = .ok (s', tr)) (hno : evNoContent ∉ tr) :
    s' = s ∧ (tr = [evBadRequest] ∨ tr = [evServerError] ∨
      tr = [evStorePut ("/services/" ++ env.pathValue rq "id"), evServerError]) := by
  rcases putService_cases env s s' w rq tr h with
    ⟨hs, ht, -⟩ | ⟨md, -, prev, pe, -, ⟨-, -, hs, ht⟩ | ⟨-, ⟨e, -, hs, ht⟩ | ⟨-, rfl, -⟩⟩⟩
  · exact ⟨hs, Or.inl ht⟩
  · exact ⟨hs, Or.inr (Or.inl ht)⟩
  · exact ⟨hs, Or.inr (Or.inr ht)⟩
  · simp at hno

/-- the registry lookup the IdP uses (`Server.GetServiceProvider`): the registered metadata, or `os.ErrNotExist` -/
theorem getServiceProvider_eq (env : Env) (s : Server) (r : Option HTTPRequest) (id : String) :
    GetServiceProvider env s r id =
      .ok (match mapGet s.serviceProviders id with
           | some md => (md, none)
           | none => (none, some "os.ErrNotExist")) := by
  unfold GetServiceProvider
  simp only [Outcome.pure_eq_ok]
  cases mapGet s.serviceProviders id <;> simp

/-- C05 / C19: right after a successful registration the IdP's lookup of that entity ID returns the metadata just registered -/
theorem registered_at_that_moment (env : Env) (s s' : Server) (w : ResponseWriter) (rq : HTTPRequest) (tr : List Event)
    (h : HandlePutService env s w (some rq) = .ok (s', tr)) (hok : evNoContent ∈ tr) (r : Option HTTPRequest) :
    ∃ md, env.getSPMetadata (some rq) = .ok (some md, none) ∧ GetServiceProvider env s' r md.EntityID = .ok (some md, none) := by
  obtain ⟨md, _, _, hm, _, _, _, hget, _, _⟩ := putService_success env s s' w rq tr h hok
  exact ⟨md, hm, by rw [getServiceProvider_eq, hget]⟩

/-- `DELETE /services/<name>`: a 204 means the stored service was read and removed from the store, and its entity ID is no longer
    served (every other entity ID is served as before); any other outcome leaves the registry as it was -/
theorem deleteService_cases (env : Env) (s s' : Server) (w : ResponseWriter) (rq : HTTPRequest) (tr : List Event)
    (h : HandleDeleteService env s w (some rq) = .ok (s', tr)) :
    let key := "/services/" ++ env.pathValue rq "id"
    (s' = s ∧ evNoContent ∉ tr) ∨
    (∃ svc, env.storeGet_Service key = .ok (svc, none) ∧ env.storeDelete key = .ok none ∧
      tr = [evStoreDelete key, evNoContent] ∧
      s'.serviceProviders = mapDelete s.serviceProviders svc.Metadata.EntityID ∧
      mapGet s'.serviceProviders svc.Metadata.EntityID = none ∧
      ∀ k, k ≠ svc.Metadata.EntityID → mapGet s'.serviceProviders k = mapGet s.serviceProviders k) := by
  unfold HandleDeleteService at h
  simp only [go_inv] at h
  obtain ⟨svc, ge, hg, ⟨-, rfl, rfl⟩ | ⟨rfl, de, hd, ⟨-, rfl, rfl⟩ | ⟨rfl, rfl, rfl⟩⟩⟩ := h
  · exact Or.inl ⟨rfl, by simp⟩
  · exact Or.inl ⟨rfl, by simp⟩
  · exact Or.inr ⟨svc, hg, hd, rfl, rfl, mapGet_mapDelete_self _ _, fun k hk => mapGet_mapDelete_other _ _ _ hk⟩

/-! ### the registry a server starts with (`Server.initializeServices`) -/

/-- the registry after loading the services `names` (read without error as `svc n`), in order -/
def loaded (svc : String → Service) (names : List String) (m : List (String × Option EntityDescriptor)) :
    List (String × Option EntityDescriptor) :=
  names.foldl (fun m n => mapSet m (svc n).Metadata.EntityID (some (svc n).Metadata)) m

/-- C05 / C19: a server (re-)created over a store whose services all read without error serves exactly what loading them in
    order gives -/
theorem initializeServices_registry (env : Env) (s : Server) (svc : String → Service) (names : List String)
    (hl : env.storeList "/services/" = .ok (names, none))
    (hget : ∀ n ∈ names, env.storeGet_Service ("/services/" ++ n) = .ok (svc n, none)) :
    initializeServices env s = .ok ({ serviceProviders := loaded svc names s.serviceProviders }, none) := by
  unfold initializeServices
  simp only [hl, Outcome.ok_bind', Outcome.pure_eq_ok, Option.isSome_none, Bool.false_eq_true, if_false]
  rw [forIn_fold names _ _ (fun st n => (none, ⟨mapSet st.2.serviceProviders (svc n).Metadata.EntityID (some (svc n).Metadata)⟩))]
  · -- the loop's state is the registry, wrapped
    rw [show List.foldl _ (none, s) names = (none, ⟨loaded svc names s.serviceProviders⟩) from
      List.foldl_hom (fun m => ((none : Option (Server × GoError)), (⟨m⟩ : Server))) (l := names) (fun _ _ => rfl)]
    rfl
  · intro n hn st
    simp only [hget n hn, Outcome.ok_bind', Option.isSome_none, Bool.false_eq_true, if_false]

theorem loaded_other (svc : String → Service) (names : List String) (m : List (String × Option EntityDescriptor)) (k : String)
    (hk : ∀ n ∈ names, (svc n).Metadata.EntityID ≠ k) : mapGet (loaded svc names m) k = mapGet m k := by
  induction names generalizing m with
  | nil => rfl
  | cons n ns ih =>
    exact (ih _ fun x hx => hk x (List.mem_cons_of_mem _ hx)).trans
      (mapGet_mapSet_other _ _ _ _ fun e => hk n List.mem_cons_self e.symm)

/-- when the stored services have pairwise different entity IDs, each entity ID is served with its own metadata — every
    issuer is resolved against its own registration, however many services the store holds -/
theorem loaded_own (svc : String → Service) (names : List String) (m : List (String × Option EntityDescriptor))
    (hnd : (names.map fun n => (svc n).Metadata.EntityID).Nodup) :
    ∀ n ∈ names, mapGet (loaded svc names m) (svc n).Metadata.EntityID = some (some (svc n).Metadata) := by
  induction names generalizing m with
  | nil => intro n hn; cases hn
  | cons x xs ih =>
    intro n hn
    obtain ⟨hx, hnd⟩ := List.nodup_cons.1 hnd
    rcases List.mem_cons.1 hn with rfl | hmem
    · exact (loaded_other svc xs _ _ fun y hy e => hx (List.mem_map.2 ⟨y, hy, e⟩)).trans (mapGet_mapSet_self _ _ _)
    · exact ih _ hnd n hmem

/-! ### storing a user (`Server.HandlePutUser` from `user.Name = r.PathValue("id")` on: the decoded body is a parameter) -/

def evBadRequest' : Event := ⟨"http.Error", ["StatusBadRequest"]⟩

/-- C19: a user is written to the store only (a) under the name in the path, (b) never with the plaintext password, (c) when a
    password came with the request: only if it is one that can be set (`validPassword`) and with the bcrypt hash of exactly that
    password; without one: with the hash already stored for that user, if there is one.  A password that cannot be set answers
    400 and nothing is written. -/
theorem putUser_stored (env : Env) (s : Server) (w : ResponseWriter) (rq : HTTPRequest) (body : User) (tr : List Event) (key : String)
    (hkey : key = "/users/" ++ env.pathValue rq "id")
    (h : putUserTail env s w (some rq) body = .ok tr) (hput : evStorePut key ∈ tr) :
    ∃ u, (∃ e, env.storePut_User key u = .ok e) ∧ u.Name = env.pathValue rq "id" ∧ u.PlaintextPassword = none ∧
      ((∃ pw, body.PlaintextPassword = some pw ∧ env.validPassword pw = .ok true ∧
          env.bcryptGenerate pw = .ok (u.HashedPassword, none)) ∨
       (body.PlaintextPassword = none ∧
          ((∃ ex, env.storeGet_User key = .ok (ex, none) ∧ u.HashedPassword = ex.HashedPassword) ∨
           (∃ ex, env.storeGet_User key = .ok (ex, env.ErrNotFound) ∧ env.ErrNotFound ≠ none ∧ u.HashedPassword = body.HashedPassword)))) := by
  subst hkey
  unfold putUserTail at h
  simp only [go_inv] at h
  -- the code after the `if`/`else` stays copied into the three leaves that reach it: only its `Store.Put` is used (`e`, `hp`), the
  -- reply is the last `-`.  Leaves: unsettable password | bcrypt fails | new hash | no password: stored hash | no such user | store fails
  rcases h with ⟨-, pw, hpw, v, hv, ⟨-, rfl⟩ | ⟨rfl, pw', hpw', hash, ge, hg, ⟨-, rfl⟩ | ⟨rfl, e, hp, -⟩⟩⟩ |
    ⟨hpw, ex, ge, hg, ⟨rfl, e, hp, -⟩ | ⟨hge, ⟨rfl, e, hp, -⟩ | ⟨-, rfl⟩⟩⟩
  · simp at hput
  · simp at hput
  · cases hpw.symm.trans hpw'
    exact ⟨_, ⟨e, hp⟩, rfl, rfl, Or.inl ⟨pw, hpw, hv, hg⟩⟩
  · exact ⟨_, ⟨e, hp⟩, rfl, rfl, Or.inr ⟨hpw, Or.inl ⟨ex, hg, rfl⟩⟩⟩
  · exact ⟨_, ⟨e, hp⟩, rfl, rfl, Or.inr ⟨hpw, Or.inr ⟨ex, hg, hge, rfl⟩⟩⟩
  · simp at hput

/-! ### shortcuts (shortcut.go `Server.HandleIDPInitiated`) -/

/-- the relay state a shortcut launch carries: the stored one when the shortcut has one, else `/` ++ the URL suffix when the shortcut
    asks for that and there is a suffix, else none -/
def shortcutRelay (sc : Shortcut) (suffix : String) : String :=
  match sc.RelayState with
  | some rs => rs
  | none => if sc.URISuffixAsRelayState = true ∧ suffix ≠ "" then "/" ++ suffix else ""

/-- C05 / C19: a shortcut request launches IdP-initiated login for exactly the service provider the stored shortcut names, with the
    relay state `shortcutRelay`; when the shortcut cannot be read the only reply is one 500 and nothing is launched -/
theorem shortcut_launch (env : Env) (s : Server) (w : ResponseWriter) (rq : HTTPRequest) (tr : List Event)
    (h : HandleIDPInitiated env s w (some rq) = .ok tr) :
    ∃ sc e, env.storeGet_Shortcut ("/shortcuts/" ++ env.pathValue rq "shortcut") = .ok (sc, e) ∧
      ((e ≠ none ∧ tr = [evServerError]) ∨
       (e = none ∧ tr = [⟨"s.IDP.ServeIDPInitiated", [sc.ServiceProviderID, shortcutRelay sc (env.pathValue rq "suffix")]⟩])) := by
  unfold HandleIDPInitiated at h
  simp only [go_inv] at h
  obtain ⟨sc, e, hg, h⟩ := h
  refine ⟨sc, e, hg, h.imp (fun h => ⟨h.1, h.2.symm⟩) (fun h => ⟨h.1, ?_⟩)⟩
  unfold shortcutRelay
  rcases h.2 with ⟨-, rs, hrs, rfl⟩ | ⟨hrs, ⟨hu, ⟨hsf, rfl⟩ | ⟨hsf, rfl⟩⟩ | ⟨hu, rfl⟩⟩
  · rw [hrs]
  · rw [hrs, if_pos ⟨hu, hsf⟩]
  · rw [hrs, if_neg (fun h => h.2 hsf)]
  · rw [hrs, if_neg (fun h => hu h.1)]

/-- what the three delete handlers and `putShortcutTail` do once the key is known: one store operation `op`, announced by `ev`,
    then 204 if the store accepted it and one 500 if not -/
theorem storeReply_cases {op : Outcome GoError} {ev : Event} {tr : List Event}
    (h : (do
      let err ← op
      if err.isSome then return [ev, evServerError]
      return [ev, evNoContent]) = .ok tr) :
    (op = .ok none ∧ tr = [ev, evNoContent]) ∨ ∃ e, op = .ok (some e) ∧ tr = [ev, evServerError] := by
  simp only [go_inv] at h
  obtain ⟨e, hd, ⟨he, rfl⟩ | ⟨rfl, rfl⟩⟩ := h
  · obtain ⟨e, rfl⟩ := Option.ne_none_iff_exists'.1 he
    exact Or.inr ⟨e, hd, rfl⟩
  · exact Or.inl ⟨hd, rfl⟩

/-- C19: ending a session / removing a user deletes exactly the named key from the store, answers 204 only after the store accepted
    the deletion, and one 500 otherwise — nothing else is written, and nothing else in the store is touched by these handlers -/
theorem deleteSession_cases (env : Env) (s : Server) (w : ResponseWriter) (rq : HTTPRequest) (tr : List Event)
    (h : HandleDeleteSession env s w (some rq) = .ok tr) :
    let key := "/sessions/" ++ env.pathValue rq "id"
    (env.storeDelete key = .ok none ∧ tr = [evStoreDelete key, evNoContent]) ∨
    (∃ e, env.storeDelete key = .ok (some e) ∧ tr = [evStoreDelete key, evServerError]) := by
  simp only [HandleDeleteSession, deref_some, Outcome.ok_bind'] at h
  exact storeReply_cases h

theorem deleteUser_cases (env : Env) (s : Server) (w : ResponseWriter) (rq : HTTPRequest) (tr : List Event)
    (h : HandleDeleteUser env s w (some rq) = .ok tr) :
    let key := "/users/" ++ env.pathValue rq "id"
    (env.storeDelete key = .ok none ∧ tr = [evStoreDelete key, evNoContent]) ∨
    (∃ e, env.storeDelete key = .ok (some e) ∧ tr = [evStoreDelete key, evServerError]) := by
  simp only [HandleDeleteUser, deref_some, Outcome.ok_bind'] at h
  exact storeReply_cases h

/-- C19: a shortcut is stored under the name in the path with the body's service provider, relay state and suffix rule untouched;
    204 only after the store accepted it -/
theorem putShortcut_cases (env : Env) (s : Server) (w : ResponseWriter) (rq : HTTPRequest) (body : Shortcut) (tr : List Event)
    (h : putShortcutTail env s w (some rq) body = .ok tr) :
    let key := "/shortcuts/" ++ env.pathValue rq "id"
    let stored : Shortcut := { body with Name := env.pathValue rq "id" }
    (env.storePut_Shortcut key stored = .ok none ∧ tr = [evStorePut key, evNoContent]) ∨
    (∃ e, env.storePut_Shortcut key stored = .ok (some e) ∧ tr = [evStorePut key, evServerError]) := by
  simp only [putShortcutTail, deref_some, Outcome.ok_bind'] at h
  exact storeReply_cases h

theorem deleteShortcut_cases (env : Env) (s : Server) (w : ResponseWriter) (rq : HTTPRequest) (tr : List Event)
    (h : HandleDeleteShortcut env s w (some rq) = .ok tr) :
    let key := "/shortcuts/" ++ env.pathValue rq "id"
    (env.storeDelete key = .ok none ∧ tr = [evStoreDelete key, evNoContent]) ∨
    (∃ e, env.storeDelete key = .ok (some e) ∧ tr = [evStoreDelete key, evServerError]) := by
  simp only [HandleDeleteShortcut, deref_some, Outcome.ok_bind'] at h
  exact storeReply_cases h

-- `TransI_no_failures` again: C05 and C08 are checked with this module and without Props/TransSession
theorem TransI_registry_no_failures : TransI.transFailures = [] := rfl

end SamlVerif.TransRegistry
