/-
  Where the SP's trusted certificates come from: `ServiceProvider.validateSignature` as regenerated from the current
  service_provider.go, up to (excluding) the statement `certificateStore := …` (`Trans.trustRoots`; the callees `findChild`,
  `getIDPSigningCerts`, `getCertBasedOnFingerprint`, `parseCert` are arbitrary functions in `Env`).
-/
import SamlVerif.Props.TransSP
open SamlVerif SamlVerif.GoSem
namespace SamlVerif.TransSP

/-- C01 "one of the IdP certificates the SP is configured to trust", C18 "a trusted IdP certificate": when the function goes on to
    verify anything, the certificates it hands to the verifier are — according to the configuration alone — exactly the signing
    certificates of the IdP metadata (no pin configured), or exactly what the fingerprint lookup returned (fingerprint *and*
    algorithm configured, no certificate), or exactly the one configured certificate (certificate configured, no fingerprint
    fields); and never an empty list -/
theorem trustRoots_from_configuration (env : Trans.Env) (sp : Trans.ServiceProvider) (el : Option Element)
    (certs : List (Option Certificate)) (hsent : env.errSignatureElementNotPresent ≠ none)
    (h : Trans.trustRoots env sp el = .ok (certs, none)) :
    certs ≠ [] ∧
    ((sp.IDPMetadata.isSome ∧ sp.IDPCertificateFingerprint = none ∧ sp.IDPCertificateFingerprintAlgorithm = none ∧ sp.IDPCertificate = none ∧
        env.getIDPSigningCerts sp = .ok (certs, none)) ∨
     (sp.IDPMetadata.isSome ∧ sp.IDPCertificateFingerprint.isSome ∧ sp.IDPCertificateFingerprintAlgorithm.isSome ∧ sp.IDPCertificate = none ∧
        env.getCertBasedOnFingerprint sp el = .ok (certs, none)) ∨
     (∃ c cert, sp.IDPMetadata.isSome ∧ sp.IDPCertificateFingerprint = none ∧ sp.IDPCertificateFingerprintAlgorithm = none ∧ sp.IDPCertificate = some c ∧
        env.parseCert c = .ok (cert, none) ∧ certs = [cert])) := by
  unfold Trans.trustRoots at h
  extract_lets _ _ last pin fp at h
  simp only [go_inv] at h
  obtain ⟨sg, _, -, ⟨hne, -, he⟩ | ⟨rfl, ⟨-, -, he⟩ | ⟨-, h⟩⟩⟩ := h
  · exact absurd he hne
  · exact absurd he hsent
  -- the certificates after each of the three blocks are `cs1`, `cs2`, `certs`: a block ran, under its condition, or left them alone
  obtain ⟨cs1, e1, h1, h⟩ : ∃ cs1 e1, (_ ∧ env.getIDPSigningCerts sp = .ok (cs1, none) ∨ cs1 = []) ∧
      fp () e1 cs1 = .ok (certs, none) :=
    h.elim (fun ⟨c, cs, b, hg, hb, h⟩ => ⟨cs, b, .inl ⟨c, hb ▸ hg⟩, h⟩) fun ⟨_, h⟩ => ⟨[], none, .inr rfl, h⟩
  simp only [fp, go_inv] at h
  obtain ⟨cs2, e2, h2, h⟩ : ∃ cs2 e2, (_ ∧ env.getCertBasedOnFingerprint sp el = .ok (cs2, none) ∨ cs2 = cs1) ∧
      pin () e2 cs2 = .ok (certs, none) :=
    h.elim (fun ⟨c, cs, b, hg, hb, h⟩ => ⟨cs, b, .inl ⟨c, hb ▸ hg⟩, h⟩) fun ⟨_, h⟩ => ⟨cs1, e1, .inr rfl, h⟩
  simp only [pin, last, go_inv] at h
  -- the last block that ran decides; the conditions exclude one another
  rcases h with ⟨c3, c, hc, cert, _, hp, rfl, -, rfl⟩ | ⟨-, hlen, rfl⟩
  · rcases h2 with ⟨c2, -⟩ | rfl
    · exact absurd c2.2 c3.2
    rcases h1 with ⟨c1, -⟩ | rfl
    · exact absurd c1.2 c3.2
    exact ⟨by simp, .inr (.inr ⟨c, cert, Option.isSome_iff_ne_none.2 c3.1.1.1, c3.1.1.2, c3.1.2, hc, hp, rfl⟩)⟩
  · have hne : cs2 ≠ [] := fun h0 => hlen (by simp [h0])
    rcases h2 with ⟨c2, hg⟩ | rfl
    · exact ⟨hne, .inr (.inl (by simpa [Option.isSome_iff_ne_none, and_assoc] using And.intro c2 hg))⟩
    rcases h1 with ⟨c1, hg⟩ | rfl
    · exact ⟨hne, .inl (by simpa [Option.isSome_iff_ne_none, and_assoc] using And.intro c1 hg)⟩
    · exact absurd rfl hne

/-- every other combination of the three pin fields, or no IdP metadata, trusts nothing: the function never gets as far as
    verifying, whatever the message contains -/
theorem trustRoots_unusable_configuration (env : Trans.Env) (sp : Trans.ServiceProvider) (el : Option Element)
    (certs : List (Option Certificate)) (hsent : env.errSignatureElementNotPresent ≠ none)
    (hbad : sp.IDPMetadata = none ∨
      (sp.IDPCertificateFingerprint.isSome ∧ sp.IDPCertificateFingerprintAlgorithm = none) ∨
      (sp.IDPCertificateFingerprint = none ∧ sp.IDPCertificateFingerprintAlgorithm.isSome) ∨
      (sp.IDPCertificate.isSome ∧ (sp.IDPCertificateFingerprint.isSome ∨ sp.IDPCertificateFingerprintAlgorithm.isSome))) :
    Trans.trustRoots env sp el ≠ .ok (certs, none) := by
  intro h
  obtain ⟨_, hsrc⟩ := trustRoots_from_configuration env sp el certs hsent h
  rcases hsrc with ⟨hm, hf, ha, hc, _⟩ | ⟨hm, hf, ha, hc, _⟩ | ⟨c, cert, hm, hf, ha, hc, _⟩ <;>
    simp_all [Option.isSome_iff_ne_none]

/-! non-vacuity: a metadata-only configuration reaches the verifier with exactly the metadata's certificates; the same
    configuration with a stray fingerprint reaches nothing -/
def exTrustEnv : Trans.Env :=
  { exEnv with
    errSignatureElementNotPresent := some "Signature element not present",
    findChild := fun el _ _ => .ok (el, none),
    getIDPSigningCerts := fun _ => .ok ([some ⟨7⟩], none),
    getCertBasedOnFingerprint := fun _ _ => .ok ([some ⟨8⟩], none),
    parseCert := fun _ => .ok (some ⟨9⟩, none) }
example : Trans.trustRoots exTrustEnv exSP (some default) = .ok ([some ⟨7⟩], none) := by decide
example : Trans.trustRoots exTrustEnv { exSP with IDPCertificate := some "pem" } (some default) = .ok ([some ⟨9⟩], none) := by decide
example : Trans.trustRoots exTrustEnv { exSP with IDPCertificateFingerprint := some "ab" } (some default) ≠ .ok ([some ⟨7⟩], none) := by decide

end SamlVerif.TransSP
