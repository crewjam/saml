/-
  The models' reading of "for all sequences of message creations / validations" — package samlidp.

  Every model of a server handler method is a *function* of the configuration value and the message, so a
  sequence of calls is the single call repeated and the per-call theorems hold for every call of every
  sequence.  That is the code's behaviour only while the code keeps no state between calls.  These are
  obligations at the regenerated hidden-state facts (extract/state.go): the server's own state is the registry map and its mutex (modelled in C19 / C20); at package level only the session lifetime and the compiled login template.
  A cache on the configuration value, a buffer pool or memo table at package level, break one of them
  whatever the generators happen to reach (the harness's stateful sequences are the search for the
  failing history).
-/
import SamlVerif.Generated.Facts

namespace SamlVerif.Pure

theorem Pure_samlidp_package_state : Facts.packageState_samlidp =
    ["samlidp.defaultLoginFormTemplate (call template.Must)", "samlidp.sessionMaxAge (expr)"] := rfl

end SamlVerif.Pure
