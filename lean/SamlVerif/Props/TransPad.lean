/-
  Props/TransPad — the block padding of xmlenc (cbc.go `appendPadding` / `stripPadding`) as regenerated from the current
  source (`Generated/TransXmlenc.lean`), tied to the hand model (`Model/Xmlenc.lean`) that the C10 / C11 theorems are about:

  * `appendPadding_refines`, `stripPadding_refines`: on every buffer and every positive block size the regenerated functions
    compute exactly what the hand model computes (errors included) — so `C10`'s round trip and `C11`'s totality are theorems
    about the code that is in the tree now.
-/
import SamlVerif.Generated.TransXmlenc
import SamlVerif.Proofs.Xmlenc
import SamlVerif.Proofs.GoSem
open SamlVerif.GoSem
namespace SamlVerif.TransPad

/-- what a Go caller of `stripPadding` sees, from the hand model's outcome -/
def liftStrip : Outcome (List UInt8) → Outcome (List UInt8 × GoError)
  | .ok p => .ok (p, none)
  | .err "pad-zero" => .ok ([], some "padding must be at least one byte")
  | .err _ => .ok ([], some "buffer is too short for padding")
  | .panic w => .panic w

theorem appendPadding_refines (env : TransX.Env) (buf : List UInt8) (bs : Int) (h : 0 < bs) :
    TransX.appendPadding env buf bs = .ok (Xmlenc.appendPadding buf bs.toNat) := by
  obtain ⟨n, rfl⟩ := Int.eq_ofNat_of_zero_le (Int.le_of_lt h)
  have hlt := Nat.mod_lt buf.length (show 0 < n by omega)
  -- Go's `paddingBytes` is `m + 1`: at least one byte, so the last index `m` of the fresh slice exists
  obtain ⟨m, hm⟩ : ∃ m, n - buf.length % n = m + 1 := ⟨n - buf.length % n - 1, by omega⟩
  simp only [TransX.appendPadding, goMod_ok (Int.natCast_nonneg _) (Int.ne_of_gt h), Outcome.ok_bind',
    Int.ofNat_mod_ofNat, ← Int.natCast_sub (Nat.le_of_lt hlt), hm, makeSlice_ok (Int.natCast_nonneg _),
    Int.toNat_natCast, List.length_replicate]
  rw [setIndex_ok (by omega) (by simp), toByte_natCast]
  simp [Xmlenc.appendPadding, hm, List.replicate_succ']

theorem stripPadding_refines (env : TransX.Env) (buf : List UInt8) :
    TransX.stripPadding env buf = liftStrip (Xmlenc.stripPadding buf) := by
  unfold TransX.stripPadding Xmlenc.stripPadding
  cases hl : buf.getLast? with
  | none => rw [List.getLast?_eq_none_iff.mp hl]; rfl
  | some last =>
    have : 0 < buf.length := by cases buf <;> simp_all
    have hb : byteToInt last = (last.toNat : Int) := rfl
    simp only [if_neg (show ¬ (buf.length : Int) < 1 by omega), index_last hl, Outcome.ok_bind']
    -- the same three-way comparison, in `Int` on the left and in `Nat` on the right
    by_cases h1 : last.toNat > buf.length
    · rw [if_pos (by omega), if_pos h1]; rfl
    · rw [if_neg (by omega), if_neg h1]
      by_cases h2 : last.toNat < 1
      · rw [if_pos (by omega), if_pos h2]; rfl
      · rw [if_neg (by omega), if_neg h2, sliceTo_ok (by omega) (by omega), hb, Int.toNat_sub]; rfl

/-- C10 on the regenerated code: strip ∘ append = identity, for every plaintext and block size 1…255 -/
theorem Trans_padding_roundtrip (env : TransX.Env) (p : List UInt8) (bs : Int) (h0 : 0 < bs) (h255 : bs ≤ 255) :
    (TransX.appendPadding env p bs >>= TransX.stripPadding env) = .ok (p, none) := by
  rw [appendPadding_refines env p bs h0]
  show TransX.stripPadding env _ = _
  rw [stripPadding_refines, Xmlenc.strip_append p bs.toNat (by omega) (by omega)]
  rfl

theorem Trans_padding_aligned (env : TransX.Env) (p : List UInt8) (bs : Int) (h0 : 0 < bs) :
    ∃ q, TransX.appendPadding env p bs = .ok q ∧ q.length % bs.toNat = 0 ∧ p <+: q :=
  ⟨_, appendPadding_refines env p bs h0, Xmlenc.appendPadding_length_mod p bs.toNat (by omega),
    by unfold Xmlenc.appendPadding; rw [List.append_assoc]; exact List.prefix_append _ _⟩

/-- C11 on the regenerated code: `stripPadding` never panics; what it returns without error is a proper prefix -/
theorem Trans_stripPadding_total (env : TransX.Env) (buf : List UInt8) :
    (∃ e, TransX.stripPadding env buf = .ok ([], some e)) ∨
    (∃ p, TransX.stripPadding env buf = .ok (p, none) ∧ p.length < buf.length ∧ p <+: buf) := by
  rw [stripPadding_refines]
  cases h : Xmlenc.stripPadding buf with
  | panic w => exact absurd h (Xmlenc.stripPadding_ne_panic buf w)
  | err e =>
    left
    unfold liftStrip
    split <;> simp_all
  | ok p =>
    obtain ⟨n, _, _, rfl⟩ := Xmlenc.stripPadding_eq_ok buf p h
    exact .inr ⟨_, rfl, Xmlenc.stripPadding_length_lt buf _ h, List.take_prefix _ _⟩

/-! the bounds are needed — block size 0 panics (division by zero), block size 256 gives a padding that does not strip —
    and the premises are satisfiable -/
example : TransX.appendPadding default [1, 2, 3] 0 = .panic "integer divide by zero" := rfl
set_option maxRecDepth 8192 in
example : (TransX.appendPadding default [] 256 >>= TransX.stripPadding default) = .ok ([], some "padding must be at least one byte") := by decide +kernel
example : TransX.appendPadding default [1, 2, 3] 8 = .ok [1, 2, 3, 0, 0, 0, 0, 5] := by decide
example : (TransX.appendPadding default [] 16 >>= TransX.stripPadding default) = .ok ([], none) := by decide
example : TransX.stripPadding default [9, 9, 3] = .ok ([], none) := by decide
example : TransX.stripPadding default [9, 9, 4] = .ok ([], some "buffer is too short for padding") := rfl

theorem TransX_no_failures : TransX.transFailures = [] := rfl

end SamlVerif.TransPad
