/-
  C16 — Only session tokens minted by this SP, unexpired, authenticate a request.

  "A request is treated as authenticated only if it presents a session token that this SP's session
   codec issued - same key, issuer and audience - no longer ago than the session lifetime; anything
   else, including tokens signed by another key or algorithm ('none', HMAC keyed with the public
   key), request-tracking tokens minted by the same SP, expired or not-yet-valid tokens, tokens for
   another audience or issuer, and truncated or altered tokens, yields no session.  The subject and
   attributes exposed to the application are exactly those of the assertion that created the session,
   and attribute-gated handlers admit a request only when the named attribute carries the required
   value."

  Partial: signatures are symbolic (`Mac`); golang-jwt's parsing/validation order is modelled, not
  verified (tied by the correspondence on structure-aware token mutations).
-/
import SamlVerif.Model.Jwt
import SamlVerif.Proofs.Outcome

namespace SamlVerif.Jwt

/-- what `decodeSession` accepting means -/
structure Authentic (c : Codec) (now : Int) (t : Token) (cl : Claims) : Prop where
  wf : t.wellFormed = true
  alg : t.alg = c.alg
  mac : t.mac = .by c.keyId c.alg
  same : cl = t.claims
  aud : cl.aud = c.audience ∧ cl.aud ≠ ""
  iss : cl.iss = c.issuer ∧ cl.iss ≠ ""
  marker : cl.samlSession = true
  exp : cl.exp = 0 ∨ now < cl.exp
  iat : cl.iat = 0 ∨ cl.iat ≤ now
  nbf : cl.nbf = 0 ∨ cl.nbf ≤ now

section
variable {c : Codec} {now : Int} {t : Token} {cl : Claims}

theorem audOK_iff {a b : String} : audOK a b = true ↔ a = b ∧ a ≠ "" := by
  simp [audOK, and_comm]

theorem issOK_iff {a b : String} : issOK a b = true ↔ a = b ∧ a ≠ "" := audOK_iff

theorem claimsValid_iff : claimsValid now cl = true ↔
    (cl.exp = 0 ∨ now < cl.exp) ∧ (cl.iat = 0 ∨ cl.iat ≤ now) ∧ (cl.nbf = 0 ∨ cl.nbf ≤ now) := by
  simp [claimsValid, and_assoc]

theorem parse_eq_ok : parse c now t = .ok cl ↔
    t.wellFormed = true ∧ t.alg ≠ .other ∧ t.alg = c.alg ∧ t.mac = .by c.keyId c.alg ∧
      claimsValid now t.claims = true ∧ t.claims = cl := by
  simp [parse, ite_eq_iff']

theorem decodeSession_eq_ok :
    decodeSession c now t = .ok cl ↔ ∃ cl', parse c now t = .ok cl' ∧ audOK cl'.aud c.audience = true ∧
      issOK cl'.iss c.issuer = true ∧ cl'.samlSession = true ∧ cl' = cl := by
  unfold decodeSession
  cases parse c now t <;> simp [ite_eq_iff']

theorem decodeSession_eq_ok_iff_authentic :
    decodeSession c now t = .ok cl ↔ t.alg ≠ .other ∧ Authentic c now t cl := by
  simp only [decodeSession_eq_ok, parse_eq_ok, audOK_iff, issOK_iff, claimsValid_iff]
  -- the same conjuncts, on the right in the order of `Authentic`'s fields
  constructor
  · rintro ⟨_, ⟨h1, h2, h3, h4, ⟨he, hi', hn⟩, rfl⟩, ha, hi, hm, rfl⟩
    exact ⟨h2, h1, h3, h4, rfl, ha, hi, hm, he, hi', hn⟩
  · rintro ⟨h2, h1, h3, h4, rfl, ha, hi, hm, he, hi', hn⟩
    exact ⟨_, ⟨h1, h2, h3, h4, ⟨he, hi', hn⟩, rfl⟩, ha, hi, hm, rfl⟩

theorem decodeTracker_eq_ok {tr : MW.TrackedRequest} :
    decodeTracker c now t = .ok tr ↔ ∃ cl, parse c now t = .ok cl ∧ audOK cl.aud c.audience = true ∧
      issOK cl.iss c.issuer = true ∧ cl.samlAuthnRequest = true ∧ ⟨cl.sub, cl.trackedID, cl.trackedURI⟩ = tr := by
  unfold decodeTracker
  cases parse c now t <;> simp [ite_eq_iff']

end

/-- **Soundness**: a session is obtained only from a well-formed token, under the codec's own
    algorithm, carrying a signature made with the codec's key over exactly these claims, addressed to
    and issued by this SP, marked as a session token, and inside its validity interval. -/
theorem C16_sound (c : Codec) (now : Int) (t : Token) (cl : Claims)
    (h : decodeSession c now t = .ok cl) : Authentic c now t cl :=
  (decodeSession_eq_ok_iff_authentic.1 h).2

/-- **Completeness**: a token this codec minted at `t0` from assertion `a` is accepted at every
    instant `t0 ≤ now < t0 + maxAge`, and yields exactly the minted claims. -/
theorem C16_complete (c : Codec) (t0 now : Int) (a : AssertionA)
    (haud : c.audience ≠ "") (hiss : c.issuer ≠ "") (hother : c.alg ≠ .other) (ht0 : t0 ≠ 0)
    (h1 : t0 ≤ now) (h2 : now < t0 + c.maxAge) :
    decodeSession c now (encodeSession c (newSession c t0 a)) = .ok (newSession c t0 a) :=
  decodeSession_eq_ok_iff_authentic.2 ⟨hother, rfl, rfl, rfl, rfl, ⟨rfl, haud⟩, ⟨rfl, hiss⟩, rfl, .inr h2, .inr h1, .inr h1⟩

/-- **Expiry**: a minted token is rejected from `t0 + maxAge` on (`hne`: golang-jwt reads `exp = 0` as no expiry claim). -/
theorem C16_expired (c : Codec) (t0 now : Int) (a : AssertionA) (hne : t0 + c.maxAge ≠ 0)
    (h : t0 + c.maxAge ≤ now) :
    ∀ cl, decodeSession c now (encodeSession c (newSession c t0 a)) ≠ .ok cl := by
  intro cl hd
  have hs := C16_sound _ _ _ _ hd
  obtain rfl := hs.same
  rcases hs.exp with he | he
  · exact hne he
  · exact Int.not_le.2 he h

/-- **Codec separation**: a request-tracking token — minted by *any* tracker codec, even one with
    the same key, issuer and audience — is never a session. -/
theorem C16_separation (c c' : Codec) (now t0 : Int) (tr : MW.TrackedRequest) :
    ∀ cl, decodeSession c now (encodeTracker c' t0 tr) ≠ .ok cl := by
  intro cl hd
  have hs := C16_sound _ _ _ _ hd
  obtain rfl := hs.same
  exact Bool.false_ne_true hs.marker

/-- and conversely a session token is never a tracking token -/
theorem C16_separation' (c c' : Codec) (now : Int) (cl0 : Claims) (h0 : cl0.samlAuthnRequest = false) :
    ∀ tr, decodeTracker c now (encodeSession c' cl0) ≠ .ok tr := by
  intro tr hd
  obtain ⟨cl, hp, _, _, hm, _⟩ := decodeTracker_eq_ok.1 hd
  obtain ⟨_, _, _, _, _, rfl⟩ := parse_eq_ok.1 hp
  exact Bool.false_ne_true (h0 ▸ hm)

/-- **Algorithm substitution**: any algorithm other than the codec's ('none', HS256 keyed with the
    public key, RS↔ES) yields no session, whatever the signature. -/
theorem C16_alg (c : Codec) (now : Int) (t : Token) (h : t.alg ≠ c.alg) :
    ∀ cl, decodeSession c now t ≠ .ok cl :=
  fun _ hd => h (C16_sound _ _ _ _ hd).alg

/-- **Other key / altered / truncated**: without a signature by this codec's key over exactly these
    claims there is no session. -/
theorem C16_mac (c : Codec) (now : Int) (t : Token) (h : t.mac ≠ .by c.keyId c.alg ∨ t.wellFormed = false) :
    ∀ cl, decodeSession c now t ≠ .ok cl := by
  intro cl hd
  have hs := C16_sound _ _ _ _ hd
  rcases h with h | h
  · exact h hs.mac
  · exact Bool.false_ne_true (h.symm.trans hs.wf)

/-- **Cross-deployment**: a token for another audience or issuer yields no session even when it is
    signed with the same key. -/
theorem C16_audience_issuer (c : Codec) (now : Int) (t : Token)
    (h : t.claims.aud ≠ c.audience ∨ t.claims.iss ≠ c.issuer) : ∀ cl, decodeSession c now t ≠ .ok cl := by
  intro cl hd
  have hs := C16_sound _ _ _ _ hd
  obtain rfl := hs.same
  rcases h with h | h
  · exact h hs.aud.1
  · exact h hs.iss.1

theorem valuesOf_cons (k0 : String) (vs : List String) (m : List (String × List String)) (k : String) :
    valuesOf ((k0, vs) :: m) k = if k = k0 then vs else valuesOf m k := by
  simp only [valuesOf, List.lookup_cons]
  split <;> simp_all

theorem valuesOf_addValue (m : List (String × List String)) (k k' v : String) :
    valuesOf (addValue m k v) k' = valuesOf m k' ++ if k' = k then [v] else [] := by
  induction m with
  | nil =>
    simp [addValue, valuesOf_cons]
    -- left: the two sides up to `valuesOf [] k'`, which computes to `[]`
    rfl
  | cons p rest ih =>
    obtain ⟨k0, vs⟩ := p
    by_cases h0 : k0 = k <;> by_cases h : k' = k0 <;> simp_all [addValue, valuesOf_cons]

theorem valuesOf_foldl_addValue (m : List (String × List String)) (k0 : String) (vs : List String) (k : String) :
    valuesOf (vs.foldl (fun m v => addValue m k0 v) m) k = valuesOf m k ++ (if k = k0 then vs else []) := by
  induction vs generalizing m with
  | nil => simp
  | cons v rest ih =>
    rw [List.foldl_cons, ih, valuesOf_addValue]
    by_cases h : k = k0 <;> simp [h]

theorem valuesOf_foldl_addAttr (m : List (String × List String)) (as : List Attr) (k : String) :
    valuesOf (as.foldl addAttr m) k =
      valuesOf m k ++ (as.filter (fun a => claimName a = k)).flatMap (·.values) := by
  induction as generalizing m with
  | nil => simp
  | cons a rest ih =>
    rw [List.foldl_cons, ih, addAttr, valuesOf_foldl_addValue]
    by_cases h : k = claimName a <;> simp [h, eq_comm]

/-- **Attribute exactness**: under claim name `k` the session exposes exactly the values — in document
    order, repeated attributes appended — of the assertion's attributes whose friendly name (else
    name) is `k`, followed by the session indexes when `k = "SessionIndex"`; nothing else. -/
theorem C16_attrs (a : AssertionA) (k : String) :
    valuesOf (attributesOf a) k =
      (a.statements.flatten.filter (fun x => claimName x = k)).flatMap (·.values) ++
      (if k = "SessionIndex" then a.sessionIndexes else []) := by
  unfold attributesOf
  simp only
  rw [valuesOf_foldl_addValue, valuesOf_foldl_addAttr]
  simp [valuesOf]

theorem C16_subject (c : Codec) (t0 : Int) (a : AssertionA) :
    (newSession c t0 a).sub = a.nameID.getD "" := rfl

/-- **Gate**: the application handler runs only with an authentic session, and an attribute-gated one
    exactly when the named attribute carries the required value. -/
theorem C16_gate (c : Codec) (now : Int) (cookie : Option Token) (gate : Option (String × String)) :
    admits c now cookie gate = true ↔
      ∃ t cl, cookie = some t ∧ decodeSession c now t = .ok cl ∧
        ∀ n v, gate = some (n, v) → v ∈ valuesOf cl.attrs n := by
  unfold admits getSession
  cases cookie with
  | none => simp
  | some t =>
    simp only [Option.some.injEq, exists_and_left, exists_eq_left']
    cases decodeSession c now t with
    | ok cl => rcases gate with _ | ⟨n, v⟩ <;> simp
    | err | panic => simp

theorem C16_no_cookie (c : Codec) (now : Int) (gate : Option (String × String)) :
    admits c now none gate = false := rfl

def exCodec : Codec := ⟨.rs256, 1, "https://sp/", "https://sp/", 3600⟩
def exAssertion : AssertionA :=
  ⟨some "alice", [[⟨"uid", "urn:oid:0.9", ["alice"]⟩, ⟨"", "groups", ["a", "b"]⟩], [⟨"", "groups", ["c"]⟩]], ["idx"]⟩

example : decodeSession exCodec 1000 (encodeSession exCodec (newSession exCodec 500 exAssertion)) =
    .ok (newSession exCodec 500 exAssertion) :=
  C16_complete exCodec 500 1000 exAssertion (by decide) (by decide) (by decide) (by decide) (by decide) (by decide)
example : valuesOf (attributesOf exAssertion) "groups" = ["a", "b", "c"] := by decide +kernel
example : admits exCodec 1000 (some (encodeSession exCodec (newSession exCodec 500 exAssertion)))
    (some ("groups", "c")) = true := by decide +kernel
example : admits exCodec 1000 (some (encodeTracker exCodec 500 ⟨"i", "id", "/"⟩)) none = false := by decide +kernel

end SamlVerif.Jwt
