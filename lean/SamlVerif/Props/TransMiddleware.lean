/-
  Props/TransMiddleware — the assertion consumer of `samlsp.Middleware` (middleware.go `ServeACS`,
  `CreateSessionFromAssertion`) as regenerated from the current source (`Generated/TransSamlsp.lean`): handlers return nothing,
  so the regenerated definitions return their *trace* — the calls that were handed the ResponseWriter, in order, with their string
  and error arguments.  The request tracker, the session provider, the assertion handler, `OnError`, the form of the request and
  `ServiceProvider.ParseResponse` are arbitrary functions.
-/
import SamlVerif.Generated.TransSamlsp
import SamlVerif.Proofs.GoInv
open SamlVerif SamlVerif.GoSem
namespace SamlVerif.TransMiddleware
open TransM

def evStop (idx : String) : Event := ⟨"m.RequestTracker.StopTrackingRequest", [idx]⟩
def evSession : Event := ⟨"m.Session.CreateSession", []⟩
def evError (e : GoError) : Event := ⟨"m.OnError", [errStr e]⟩
def evRedirect (u : String) : Event := ⟨"http.Redirect", [u, "302"]⟩
attribute [local simp] evStop evSession evError evRedirect

/-- `Target … pre u`: where the browser may be sent (`u`) and the events that precede `CreateSession` on that run (`pre`), by the
    three ways the code settles them -/
inductive Target (env : Env) (m : Middleware) (rq : HTTPRequest) (dflt : String) : List Event → String → Prop where
  | default (h : env.formGet rq "RelayState" = "") : Target env m rq dflt [] dflt
  | tracked (t : TrackedRequest) (o : Option TrackedRequest)
      (h : env.formGet rq "RelayState" ≠ "")
      (hget : m.RequestTracker.GetTrackedRequest (some rq) (env.formGet rq "RelayState") = .ok (some t, none)) :
      Target env m rq dflt [evStop (env.formGet rq "RelayState")] t.URI
  | idpInitiated (o : Option TrackedRequest)
      (h : env.formGet rq "RelayState" ≠ "") (hallow : m.ServiceProvider.AllowIDPInitiated = true)
      (hget : m.RequestTracker.GetTrackedRequest (some rq) (env.formGet rq "RelayState") = .ok (o, some "http.ErrNoCookie")) :
      Target env m rq dflt [] (env.formGet rq "RelayState")

/-- C17: every run of `CreateSessionFromAssertion` is `[stop tracking]? ++ [OnError e]`, or
    `[stop tracking]? ++ [CreateSession, OnError e]`, or `[stop tracking]? ++ [CreateSession, Redirect u 302]`; the browser is
    redirected only after the session provider accepted, and `u` is the caller's default when no RelayState came back, the URI
    recorded in the tracked request that the RelayState names (which is then cleared: the stop-tracking event comes first), or
    — only when IdP-initiated login is allowed and the tracker knows no such cookie — the RelayState itself -/
theorem createSession_trace (env : Env) (m : Middleware) (w : ResponseWriter) (r : Option HTTPRequest) (a : Option Assertion)
    (dflt : String) (tr : List Event) (h : CreateSessionFromAssertion env m w r a dflt = .ok tr) :
    ∃ rq, r = some rq ∧
    ((∃ e, e ≠ none ∧ tr = [evError e] ∧ env.formGet rq "RelayState" ≠ "" ∧
        (∃ o, m.RequestTracker.GetTrackedRequest r (env.formGet rq "RelayState") = .ok (o, e)) ∧
        ¬ (e = some "http.ErrNoCookie" ∧ m.ServiceProvider.AllowIDPInitiated = true)) ∨
     (∃ e, e ≠ none ∧ tr = [evStop (env.formGet rq "RelayState"), evError e] ∧
        m.RequestTracker.StopTrackingRequest w r (env.formGet rq "RelayState") = .ok e) ∨
     (∃ pre u, Target env m rq dflt pre u ∧
        ((∃ e, e ≠ none ∧ m.Session.CreateSession w r a = .ok e ∧ tr = pre ++ [evSession, evError e]) ∨
         (m.Session.CreateSession w r a = .ok none ∧ tr = pre ++ [evSession, evRedirect u])))) := by
  unfold CreateSessionFromAssertion at h
  extract_lets tr0 uri0 _ finish at h
  -- every run ends in `finish`, once the events so far `pre` and the redirect target `u` are settled
  have hfin : ∀ pre u, finish () pre u = .ok tr →
      (∃ e, e ≠ none ∧ m.Session.CreateSession w r a = .ok e ∧ tr = pre ++ [evSession, evError e]) ∨
      (m.Session.CreateSession w r a = .ok none ∧ tr = pre ++ [evSession, evRedirect u]) := by
    intro pre u hf
    simp only [finish, go_inv, List.append_assoc] at hf
    obtain ⟨e, hc, ⟨he, -, -, -, -, rfl⟩ | ⟨rfl, rfl⟩⟩ := hf
    · exact Or.inl ⟨e, he, hc, rfl⟩
    · exact Or.inr ⟨hc, rfl⟩
  simp only [go_inv, tr0, uri0] at h
  obtain ⟨rq, rfl, h⟩ := h
  refine ⟨rq, rfl, ?_⟩
  -- the later `*r` are the same `rq`
  simp only [Option.some.injEq, exists_eq_left'] at h
  -- the leaves: no such cookie and IdP-initiated login allowed | any other tracker error | stopping fails | tracked | no RelayState;
  -- `-, -, -, -` is the call of `m.OnError`: the hook, that it is set, its result and the call
  rcases h with ⟨hr, o, e, hg, ⟨he, ⟨hc, h⟩ | ⟨hc, -, -, -, -, rfl⟩⟩ | ⟨rfl, se, hs, ⟨hse, -, -, -, -, rfl⟩ | ⟨rfl, t, rfl, h⟩⟩⟩ | ⟨hr, h⟩
  · -- the inner `if uri != ""` reads the same form value again, which `hr` says is not empty
    exact Or.inr (Or.inr ⟨[], _, Target.idpInitiated o hr hc.2 (hc.1 ▸ hg), hfin _ _ (h.resolve_right (fun h => hr h.1)).2⟩)
  · exact Or.inl ⟨e, he, rfl, hr, ⟨o, hg⟩, hc⟩
  · exact Or.inr (Or.inl ⟨se, hse, rfl, hs⟩)
  · exact Or.inr (Or.inr ⟨_, _, Target.tracked t (some t) hr hg, hfin _ _ h⟩)
  · exact Or.inr (Or.inr ⟨[], dflt, Target.default hr, hfin _ _ h⟩)

theorem ev_ne5 (idx : String) : evSession ≠ evStop idx := by simp

/-- C17: with IdP-initiated login off, the browser is sent to the default (no RelayState came back) or to the URI recorded in
    the tracked request the RelayState names, after that tracking cookie was cleared and the session was created — never to a
    location the response chose -/
theorem createSession_redirect_not_caller_chosen (env : Env) (m : Middleware) (w : ResponseWriter) (r : Option HTTPRequest)
    (a : Option Assertion) (dflt u : String) (tr : List Event)
    (hoff : m.ServiceProvider.AllowIDPInitiated = false)
    (h : CreateSessionFromAssertion env m w r a dflt = .ok tr) (hu : evRedirect u ∈ tr) :
    ∃ rq, r = some rq ∧ m.Session.CreateSession w r a = .ok none ∧
      ((env.formGet rq "RelayState" = "" ∧ u = dflt ∧ tr = [evSession, evRedirect u]) ∨
       (∃ t, m.RequestTracker.GetTrackedRequest r (env.formGet rq "RelayState") = .ok (some t, none) ∧ u = t.URI ∧
          tr = [evStop (env.formGet rq "RelayState"), evSession, evRedirect u])) := by
  obtain ⟨rq, rfl, hsh⟩ := createSession_trace env m w r a dflt tr h
  refine ⟨rq, rfl, ?_⟩
  rcases hsh with ⟨e, -, rfl, -⟩ | ⟨e, -, rfl, -⟩ | ⟨pre, u', htg, ⟨e, -, -, rfl⟩ | ⟨hcs, rfl⟩⟩
  · simp at hu
  · simp at hu
  · cases htg <;> simp at hu
  · refine ⟨hcs, ?_⟩
    cases htg with
    | default hr =>
      obtain rfl : u = dflt := by simpa using hu
      exact Or.inl ⟨hr, rfl, rfl⟩
    | tracked t o hr hg =>
      obtain rfl : u = t.URI := by simpa using hu
      exact Or.inr ⟨t, hg, rfl, rfl⟩
    | idpInitiated o hr ha hg => exact absurd (hoff ▸ ha) Bool.false_ne_true

/-- C17: with IdP-initiated login off, a RelayState the tracker cannot resolve ends the request in the error handler: no
    session, no redirect, no cookie touched -/
theorem createSession_refused_without_tracking (env : Env) (m : Middleware) (w : ResponseWriter) (rq : HTTPRequest)
    (a : Option Assertion) (dflt : String) (tr : List Event) (o : Option TrackedRequest) (e : String)
    (hoff : m.ServiceProvider.AllowIDPInitiated = false)
    (hr : env.formGet rq "RelayState" ≠ "")
    (hg : m.RequestTracker.GetTrackedRequest (some rq) (env.formGet rq "RelayState") = .ok (o, some e))
    (h : CreateSessionFromAssertion env m w (some rq) a dflt = .ok tr) : tr = [evError (some e)] := by
  unfold CreateSessionFromAssertion at h
  extract_lets _ _ _ finish at h
  simp only [go_inv, hg, hoff, hr] at h
  obtain ⟨-, -, -, -, rfl⟩ := h
  rfl

/-- the request IDs `ServeACS` treats as outstanding -/
def outstanding (m : Middleware) (tracked : List TrackedRequest) : List String :=
  (if m.ServiceProvider.AllowIDPInitiated then [""] else []) ++ tracked.map (·.SAMLRequestID)

/-- C04 / C17: every run of `ServeACS`; the request IDs handed to `ParseResponse` are exactly `[""]` (only if IdP-initiated login
    is allowed) followed by the IDs of the tracked requests of this browser, in order -/
theorem serveACS_trace (env : Env) (m : Middleware) (w : ResponseWriter) (r : Option HTTPRequest) (tr : List Event)
    (h : ServeACS env m w r = .ok tr) :
    (∃ e, e ≠ none ∧ env.parseForm r = .ok e ∧ tr = [evError e]) ∨
    (env.parseForm r = .ok none ∧
      ∃ tracked a pe, m.RequestTracker.GetTrackedRequests r = .ok tracked ∧
        env.ParseResponse m.ServiceProvider r (outstanding m tracked) = .ok (a, pe) ∧
        ((pe ≠ none ∧ tr = [evError pe]) ∨
         (pe = none ∧ ∃ he, m.AssertionHandler.HandleAssertion a = .ok he ∧
            ((he ≠ none ∧ tr = [evError he]) ∨
             (he = none ∧ CreateSessionFromAssertion env m w r a m.ServiceProvider.DefaultRedirectURI = .ok tr))))) := by
  unfold ServeACS at h
  extract_lets tr0 ids0 _ tail ids1 at h
  simp only [go_inv] at h
  obtain ⟨fe, hf, ⟨hfe, -, -, -, -, rfl⟩ | ⟨rfl, h⟩⟩ := h
  · exact Or.inl ⟨fe, hfe, hf, rfl⟩
  refine Or.inr ⟨hf, ?_⟩
  -- either way the run goes on with `tail`, from `[""]` or from `[]`
  have ht : tail () (if m.ServiceProvider.AllowIDPInitiated = true then [""] else []) = .ok tr := by
    rcases h with ⟨ha, h⟩ | ⟨ha, h⟩
    · rw [if_pos ha]; exact h
    · rw [if_neg ha]; exact h
  simp only [tail, tr0, go_inv, forIn_collect] at ht
  obtain ⟨tracked, hg, a, pe, hp, h⟩ := ht
  refine ⟨tracked, a, pe, hg, hp, ?_⟩
  rcases h with ⟨hpe, -, -, -, -, rfl⟩ | ⟨rfl, he, hh, ⟨hhe, -, -, -, -, rfl⟩ | ⟨rfl, hc⟩⟩
  · exact Or.inl ⟨hpe, rfl⟩
  · exact Or.inr ⟨rfl, he, hh, Or.inl ⟨hhe, rfl⟩⟩
  · exact Or.inr ⟨rfl, none, hh, Or.inr ⟨rfl, hc⟩⟩

/-- C04 / C17: a session is created only for an assertion that `ParseResponse` returned without error for exactly the
    outstanding request IDs of this browser, and that the assertion handler accepted -/
theorem serveACS_session_only_after_validation (env : Env) (m : Middleware) (w : ResponseWriter) (r : Option HTTPRequest)
    (tr : List Event) (h : ServeACS env m w r = .ok tr) (hs : evSession ∈ tr) :
    ∃ tracked a, m.RequestTracker.GetTrackedRequests r = .ok tracked ∧
      env.ParseResponse m.ServiceProvider r (outstanding m tracked) = .ok (a, none) ∧
      m.AssertionHandler.HandleAssertion a = .ok none := by
  rcases serveACS_trace env m w r tr h with ⟨e, -, -, rfl⟩ | ⟨-, tracked, a, pe, hg, hp, ⟨-, rfl⟩ | ⟨rfl, he, hh, ⟨-, rfl⟩ | ⟨rfl, -⟩⟩⟩
  · simp at hs
  · simp at hs
  · simp at hs
  · exact ⟨tracked, a, hg, hp, hh⟩

/-- with IdP-initiated login off and no tracked request, nothing is outstanding: `ParseResponse` is asked with the empty list -/
theorem outstanding_empty (m : Middleware) (hoff : m.ServiceProvider.AllowIDPInitiated = false) : outstanding m [] = [] := by
  simp [outstanding, hoff]

theorem outstanding_no_empty_id (m : Middleware) (tracked : List TrackedRequest) (hoff : m.ServiceProvider.AllowIDPInitiated = false)
    (hne : ∀ t ∈ tracked, t.SAMLRequestID ≠ "") : "" ∉ outstanding m tracked := by
  simp only [outstanding, hoff, Bool.false_eq_true, if_false, List.nil_append, List.mem_map, not_exists, not_and]
  exact hne

theorem TransM_no_failures : TransM.transFailures = [] := rfl

/-! non-vacuity: a concrete middleware, a faithful flow, an unresolvable RelayState -/
def exTracker : RequestTracker :=
  { StopTrackingRequest := fun _ _ _ => .ok none,
    GetTrackedRequests := fun _ => .ok [{ Index := "idx-1", SAMLRequestID := "id-1", URI := "/app/page" }],
    GetTrackedRequest := fun _ idx => if idx = "idx-1" then .ok (some { Index := "idx-1", SAMLRequestID := "id-1", URI := "/app/page" }, none) else .ok (none, some "http.ErrNoCookie") }
def exM : Middleware :=
  { (default : Middleware) with
    ServiceProvider := { (default : ServiceProvider) with AllowIDPInitiated := false, DefaultRedirectURI := "/" }
    OnError := some (fun _ _ _ => .ok ())
    RequestTracker := exTracker
    Session := { CreateSession := fun _ _ _ => .ok none }
    AssertionHandler := { HandleAssertion := fun _ => .ok none } }
def exEnvM (relay : String) : Env :=
  { (default : Env) with
    formGet := fun _ k => if k = "RelayState" then relay else ""
    parseForm := fun _ => .ok none
    ParseResponse := fun _ _ ids => if ids = ["id-1"] then .ok (some ⟨⟩, none) else .ok (none, some "InvalidResponseError") }
example : ServeACS (exEnvM "idx-1") exM ⟨0⟩ (some ⟨0⟩) = .ok [evStop "idx-1", evSession, evRedirect "/app/page"] := by rfl
example : ServeACS (exEnvM "") exM ⟨0⟩ (some ⟨0⟩) = .ok [evSession, evRedirect "/"] := by rfl
example : ServeACS (exEnvM "https://evil.example/") exM ⟨0⟩ (some ⟨0⟩) = .ok [evError (some "http.ErrNoCookie")] := by rfl
example : ServeACS (exEnvM "https://evil.example/") { exM with ServiceProvider := { (default : ServiceProvider) with AllowIDPInitiated := true, DefaultRedirectURI := "/" } } ⟨0⟩ (some ⟨0⟩)
    = .ok [evError (some "InvalidResponseError")] := by rfl

/-! ### the cookie request tracker (request_tracker_cookie.go `GetTrackedRequest`, `GetTrackedRequests`) -/

/-- C17: the tracked request that a RelayState names is the decoding of *this browser's* cookie of that name, and says so itself -/
theorem getTrackedRequest_sound (env : Env) (t : CookieRequestTracker) (r : Option HTTPRequest) (idx : String) (tr : Option TrackedRequest)
    (h : GetTrackedRequest env t r idx = .ok (tr, none)) :
    ∃ rq ck req, r = some rq ∧ env.cookie rq (t.NamePrefix ++ idx) = .ok (some ck, none) ∧
      t.Codec.Decode ck.Value = .ok (some req, none) ∧ req.Index = idx ∧ tr = some req := by
  unfold GetTrackedRequest at h
  simp only [go_inv] at h
  obtain ⟨rq, rfl, ck, ce, hc, ⟨hne, -, he⟩ | ⟨rfl, c, rfl, q, de, hd, ⟨hne, -, he⟩ | ⟨rfl, req, rfl, hi, rfl⟩⟩⟩ := h
  · exact absurd he hne
  · exact absurd he hne
  · exact ⟨rq, c, req, rfl, hc, hd, hi, rfl⟩

/-- a tracked request of this browser: the decoding of one of its cookies whose name is the tracker's prefix followed by the
    index the decoded request carries -/
def FromCookie (env : Env) (t : CookieRequestTracker) (rq : HTTPRequest) (req : TrackedRequest) : Prop :=
  ∃ ck, some ck ∈ env.cookies rq ∧ hasPrefix ck.Name t.NamePrefix = true ∧
    t.Codec.Decode ck.Value = .ok (some req, none) ∧ trimPrefix ck.Name t.NamePrefix = req.Index

/-- C04 / C17: every request `GetTrackedRequests` reports (hence every request ID `ServeACS` treats as outstanding) comes from a
    cookie this browser presented, decoded by the tracker's codec, under that request's own index -/
theorem getTrackedRequests_sound (env : Env) (t : CookieRequestTracker) (r : Option HTTPRequest) (l : List TrackedRequest)
    (h : GetTrackedRequests env t r = .ok l) : ∃ rq, r = some rq ∧ ∀ req ∈ l, FromCookie env t rq req := by
  unfold GetTrackedRequests at h
  simp only [go_inv] at h
  obtain ⟨rq, rfl, h⟩ := h
  refine ⟨rq, rfl, forIn_inv _ _ (fun rv => ∀ req ∈ rv, FromCookie env t rq req) ?_ [] (fun _ h => absurd h List.not_mem_nil) l h⟩
  intro ck hck rv hI st hst
  cases ck with
  | none => simp only [go_inv] at hst
  | some c =>
    simp only [go_inv] at hst
    rcases hst with ⟨-, rfl⟩ | ⟨hp, q, de, hd, ⟨-, rfl⟩ | ⟨rfl, qq, rfl, ⟨-, rfl⟩ | ⟨hi, qq', hq, rfl⟩⟩⟩
    · exact hI
    · exact hI
    · exact hI
    · cases hq
      intro req hreq
      rcases List.mem_append.1 hreq with hreq | hreq
      · exact hI req hreq
      · cases List.mem_singleton.1 hreq
        exact ⟨c, hck, hp, hd, hi⟩

/-! ### which binding starts a flow (middleware.go `HandleStartAuthFlow`, from `var binding, bindingLocation string` up to
    `authReq, err :=`; translated twice, once yielding `binding`, once `bindingLocation`) -/

def redirectBinding : String := "urn:oasis:names:tc:SAML:2.0:bindings:HTTP-Redirect"
def postBinding : String := "urn:oasis:names:tc:SAML:2.0:bindings:HTTP-POST"

/-- C12 / C13: the configured binding if there is one; otherwise HTTP-Redirect exactly when the IdP publishes a location for it,
    else HTTP-POST — and the location is the one the IdP publishes for the binding that was chosen -/
theorem startFlow_binding (env : Env) (m : Middleware) (b loc : String)
    (hb : startFlowBinding env m = .ok (b, none)) (hl : startFlowLocation env m = .ok (loc, none)) :
    env.GetSSOBindingLocation m.ServiceProvider b = .ok loc ∧
    ((m.Binding ≠ "" ∧ b = m.Binding) ∨
     (m.Binding = "" ∧ b = redirectBinding ∧ loc ≠ "") ∨
     (m.Binding = "" ∧ b = postBinding ∧ env.GetSSOBindingLocation m.ServiceProvider redirectBinding = .ok "")) := by
  unfold startFlowLocation at hl
  unfold startFlowBinding at hb
  simp only [go_inv] at hl
  -- the three runs of the one, and what the other does on each
  rcases hl with ⟨hm, hl⟩ | ⟨hm, l1, h1, ⟨rfl, hl⟩ | ⟨hne, rfl⟩⟩
  · simp only [go_inv, hm, hl] at hb
    subst hb
    exact ⟨hl, Or.inl ⟨hm, rfl⟩⟩
  · simp only [go_inv, hm, h1, hl] at hb
    subst hb
    exact ⟨hl, Or.inr (Or.inr ⟨hm, rfl, h1⟩)⟩
  · simp only [go_inv, hm, h1, hne] at hb
    subst hb
    exact ⟨h1, Or.inr (Or.inl ⟨hm, rfl, hne⟩)⟩

/-! ### what `samlsp.New` makes of its options (new.go `DefaultServiceProvider` from `var forceAuthn *bool` on; fields of the
    returned `saml.ServiceProvider` whose values are keys, certificates, clients or URLs are outside the translation) -/

/-- C04 / C17: IdP-initiated login is allowed exactly when the option says so — no other option (a default redirect target,
    request signing, forced authentication, an entity ID, logout bindings) has a say; the default redirect target is the
    configured one, `/` when none is; requests are signed exactly when `SignRequest` is set -/
theorem defaultServiceProvider_flags (env : Env) (opts : Options) :
    ∃ sp, defaultServiceProviderTail env opts = .ok sp ∧
      sp.AllowIDPInitiated = opts.AllowIDPInitiated ∧
      sp.DefaultRedirectURI = (if opts.DefaultRedirectURI = "" then "/" else opts.DefaultRedirectURI) ∧
      sp.SignatureMethod = (if opts.SignRequest = true then env.defaultSigningMethodOfKey else "") ∧
      sp.EntityID = opts.EntityID ∧
      sp.ForceAuthn = (if opts.ForceAuthn = true then some true else none) := by
  unfold defaultServiceProviderTail
  -- no `if` returns: the run is `.ok` of one record, whose fields each hang on one of the conditions
  simp only [Outcome.pure_eq_ok, ← apply_ite Outcome.ok]
  refine ⟨_, rfl, ?_⟩
  simp only [apply_ite ServiceProvider.AllowIDPInitiated, apply_ite ServiceProvider.DefaultRedirectURI,
    apply_ite ServiceProvider.SignatureMethod, apply_ite ServiceProvider.EntityID, apply_ite ServiceProvider.ForceAuthn, ite_self]
  refine ⟨trivial, by simp only [beq_iff_eq], ?_, trivial, ?_⟩
  · cases opts.SignRequest <;> rfl
  · cases opts.ForceAuthn <;> rfl

/-- C17 (new.go `DefaultSessionProvider`): the session cookie provider that `samlsp.New` builds is `HttpOnly` whatever the deployment,
    `Secure` exactly on https deployments, and named as configured (`token` when no name is) — with
    `cookieCreateSession_cookie` (`Props/TransSession`): the session cookie is HttpOnly, and Secure on https -/
theorem defaultSessionProvider_flags (env : Env) (opts : Options) :
    ∃ p, DefaultSessionProvider env opts = .ok p ∧ p.HTTPOnly = true ∧
      p.Secure = (env.urlScheme_Options opts == "https") ∧
      p.Name = (if opts.CookieName = "" then "token" else opts.CookieName) := by
  unfold DefaultSessionProvider
  simp only [Outcome.pure_eq_ok]
  by_cases hn : opts.CookieName = "" <;> simp [hn]

/-! ### starting to track a request (request_tracker_cookie.go `CookieRequestTracker.TrackRequest`; the codec, the application's
    `RelayStateFunc`, the request's URL and the fresh random index are arbitrary) -/

/-- the request that is tracked for a flow: the SAML request ID handed in, the URL of *this* request, under the application's relay
    state when it gives a non-empty one, else under the fresh random index -/
def trackedFor (env : Env) (rq : HTTPRequest) (id : String) (relay : Option String) : TrackedRequest :=
  { (default : TrackedRequest) with
    Index := (match relay with | some s => if s = "" then env.randomIndex else s | none => env.randomIndex),
    SAMLRequestID := id, URI := env.requestURL rq }

/-- C17: tracking a request writes exactly one cookie — named prefix ++ index, HttpOnly, its value what the tracker's codec made of
    the tracked request `trackedFor` (this request's URL, this SAML request ID) — and answers with that index; when the codec fails
    nothing is set -/
theorem trackRequest_cookie (env : Env) (t : CookieRequestTracker) (w : ResponseWriter) (rq : HTTPRequest) (id idx : String)
    (e : GoError) (tr : List Event) (h : TrackRequest env t w (some rq) id = .ok ((idx, e), tr)) :
    ∃ relay : Option String,
      (match t.RelayStateFunc with
       | some f => ∃ s, f w (some rq) = .ok s ∧ relay = some s
       | none => relay = none) ∧
      ∃ enc ee, t.Codec.Encode (trackedFor env rq id relay) = .ok (enc, ee) ∧
        ((ee ≠ none ∧ e = ee ∧ idx = "" ∧ ¬ (∃ a, (⟨"http.SetCookie", a⟩ : Event) ∈ tr)) ∨
         (ee = none ∧ e = none ∧ idx = (trackedFor env rq id relay).Index ∧
            (⟨"http.SetCookie", ["Name=" ++ (t.NamePrefix ++ idx), "Value=" ++ enc, "HttpOnly=" ++ toString true]⟩ : Event) ∈ tr ∧
            ∀ a, (⟨"http.SetCookie", a⟩ : Event) ∈ tr → a = ["Name=" ++ (t.NamePrefix ++ idx), "Value=" ++ enc, "HttpOnly=" ++ toString true])) := by
  unfold TrackRequest at h
  extract_lets tr0 _ _ encode tr1 at h
  -- every run ends in `encode`, once the tracked request `q` is settled; no cookie was set before (`pre`)
  have henc : ∀ pre q, (∀ a, (⟨"http.SetCookie", a⟩ : Event) ∉ pre) → encode () pre q = .ok ((idx, e), tr) →
      ∃ enc ee, t.Codec.Encode q = .ok (enc, ee) ∧
        ((ee ≠ none ∧ e = ee ∧ idx = "" ∧ ¬ (∃ a, (⟨"http.SetCookie", a⟩ : Event) ∈ tr)) ∨
         (ee = none ∧ e = none ∧ idx = q.Index ∧
            (⟨"http.SetCookie", ["Name=" ++ (t.NamePrefix ++ idx), "Value=" ++ enc, "HttpOnly=" ++ toString true]⟩ : Event) ∈ tr ∧
            ∀ a, (⟨"http.SetCookie", a⟩ : Event) ∈ tr → a = ["Name=" ++ (t.NamePrefix ++ idx), "Value=" ++ enc, "HttpOnly=" ++ toString true])) := by
    intro pre q hpre he
    simp only [encode, go_inv] at he
    obtain ⟨enc, ee, hen, ⟨hee, ⟨rfl, rfl⟩, rfl⟩ | ⟨rfl, ⟨rfl, rfl⟩, rfl⟩⟩ := he
    · exact ⟨enc, ee, hen, Or.inl ⟨hee, rfl, rfl, fun ⟨a, ha⟩ => hpre a ha⟩⟩
    · refine ⟨enc, none, hen, Or.inr ⟨rfl, rfl, rfl, by simp, fun a ha => ?_⟩⟩
      rcases List.mem_append.1 ha with ha | ha
      · exact absurd ha (hpre a)
      · simpa using ha
  simp only [go_inv] at h
  rcases h with ⟨-, f, hf, s, hs, ⟨hne, h⟩ | ⟨rfl, h⟩⟩ | ⟨hf, h⟩
  · refine ⟨some s, by rw [hf]; exact ⟨s, hs, rfl⟩, ?_⟩
    rw [show trackedFor env rq id (some s) = ⟨s, id, env.requestURL rq⟩ by simp [trackedFor, hne]]
    exact henc _ _ (by simp [tr0, tr1]) h
  · exact ⟨some "", by rw [hf]; exact ⟨"", hs, rfl⟩, henc _ _ (by simp [tr0, tr1]) h⟩
  · exact ⟨none, by rw [hf], henc _ _ (by simp [tr0]) h⟩

/-! ### routing (middleware.go `Middleware.ServeHTTP`) -/

/-- C17: a request is handled as an assertion delivery exactly when its path is the ACS path (and is not the metadata path, which is
    looked at first); every other path gets the metadata document or a 404 — no other route creates sessions -/
theorem middlewareRoute_cases (env : Env) (m : Middleware) (w : ResponseWriter) (rq : HTTPRequest) (tr : List Event)
    (h : middlewareRoute env m w (some rq) = .ok tr) :
    (env.requestPath rq = env.urlPath_ServiceProvider_MetadataURL m.ServiceProvider ∧ tr = [⟨"m.ServeMetadata", []⟩]) ∨
    (env.requestPath rq ≠ env.urlPath_ServiceProvider_MetadataURL m.ServiceProvider ∧
       env.requestPath rq = env.urlPath_ServiceProvider_AcsURL m.ServiceProvider ∧ ServeACS env m w (some rq) = .ok tr) ∨
    (env.requestPath rq ≠ env.urlPath_ServiceProvider_MetadataURL m.ServiceProvider ∧
       env.requestPath rq ≠ env.urlPath_ServiceProvider_AcsURL m.ServiceProvider ∧ tr = [⟨"http.NotFound", []⟩]) := by
  unfold middlewareRoute at h
  simp only [go_inv] at h
  rcases h with ⟨h1, rfl⟩ | ⟨h1, ⟨h2, hs⟩ | ⟨h2, rfl⟩⟩
  · exact Or.inl ⟨h1, rfl⟩
  · exact Or.inr (Or.inl ⟨h1, h2, hs⟩)
  · exact Or.inr (Or.inr ⟨h1, h2, rfl⟩)

end SamlVerif.TransMiddleware
