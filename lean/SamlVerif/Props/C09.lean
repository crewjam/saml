/-
  C09 — Message-consuming APIs are total: a result or an error, never a panic or blow-up.

  Left out: `Tree.parseT` / `Tree.parseArtifactT` (they add no `.panic` leaf to the struct-level
  validators they end in); base64 and XML decoding (harness only).
-/
import SamlVerif.Proofs.SPStruct
import SamlVerif.Model.Flate
import SamlVerif.Props.C05
import SamlVerif.Props.C11
import SamlVerif.Props.C18
import SamlVerif.Generated.Facts

namespace SamlVerif.SP

/-- Response parsing never panics, whatever optional parts are absent (struct level). -/
theorem C09_parseResponse_total (cfg : Cfg) (now : Int) (ids : List String) (url : String)
    (need : Need) (respSig : SigState) (r : ResponseS) :
    (parseResponse cfg now ids url need respSig r).isPanic = false :=
  Outcome.isPanic_eq_false.mpr (parseResponse_ne_panic cfg now ids url need respSig r)

theorem C09_parseArtifactResponse_total (cfg : Cfg) (now : Int) (ids : List String)
    (resolveId url : String) (ar : ArtifactResponseS) :
    (parseArtifactResponse cfg now ids resolveId url ar).isPanic = false :=
  Outcome.isPanic_eq_false.mpr (parseArtifactResponse_ne_panic cfg now ids resolveId url ar)

/-- Absent optional parts are rejections, not acceptances (and not panics). -/
theorem C09_missing_parts_rejected (cfg : Cfg) (now : Int) (ids : List String) (a : AssertionS)
    (h : a.subject = none ∨ a.conditions = none ∨
         ∃ scs sc, a.subject = some scs ∧ sc ∈ scs ∧ sc.data = none) :
    ¬ AssertionValid cfg now ids a := by
  intro hv
  obtain ⟨scs, hs, hall⟩ := hv.subj
  obtain ⟨c, hc, -⟩ := hv.cond
  rcases h with h | h | ⟨scs', sc, hs', hm, hd⟩
  · simp [h] at hs
  · simp [h] at hc
  · cases hs.symm.trans hs'
    simpa [hd] using (hall sc hm).ex

end SamlVerif.SP

namespace SamlVerif.Flate

theorem read_ok_le {limit count : Nat} {c : Call} {p : Nat × Nat}
    (h : read limit count c = .ok p) : p.1 ≤ limit := by
  simp [read, ite_eq_iff'] at h
  obtain ⟨hle, rfl⟩ := h
  omega

/-- **Inflate bound**: whatever the inflater offers and however the caller sizes its buffers, the
    bytes handed out never exceed the limit — for every sequence of reads of any length. -/
theorem C09_inflate_bound (limit : Nat) (calls : List Call) (count : Nat) (h : count ≤ limit) :
    (readAll limit count calls).1 ≤ limit := by
  fun_induction readAll limit count calls with
  | case1 => exact h
  | case2 _ _ _ _ _ hr ih => exact ih (read_ok_le hr)
  | case3 => exact h

/-- demanding more than the limit allows is an error, not a silent truncation -/
theorem C09_inflate_refuses (limit count : Nat) (c : Call) (h : limit < count + c.bufLen) :
    read limit count c = .err "uncompress-limit" := by
  unfold read
  rw [if_pos h]

/-- obligation at the regenerated facts: the limit in the source is at most 10 MB -/
theorem C09_limit_fact : Facts.flateUncompressLimit ≤ 10 * 1024 * 1024 ∧ 0 < Facts.flateUncompressLimit := by decide

end SamlVerif.Flate

namespace SamlVerif.IdP

/-- `getSPEncryptionCert`'s selection never panics: a key descriptor without certificate is an error -/
theorem C09_selectEncCert_total (keys : List KeyDesc) (w : String) : selectEncCert keys ≠ .panic w :=
  selectEncCert_ne_panic keys w

/-- request validation is total (C05_total, restated for the list of entry points) -/
theorem C09_validate_total (cfg : Cfg) (now : Int) (reg : String → Lookup) (req : AuthnRequestS) (w : String) :
    validate cfg now reg req ≠ .panic w := C05_total cfg now reg req w

end SamlVerif.IdP

namespace SamlVerif.Logout

/-- logout validation is total: valid or an error (C18_total) -/
theorem C09_logout_total (cfg : Cfg) (now : Int) (d : Doc) :
    validate cfg now d = .ok () ∨ ∃ e, validate cfg now d = .err e := C18_total cfg now d

end SamlVerif.Logout

namespace SamlVerif.Xmlenc

/-- decryption of attacker-built EncryptedAssertion content is total (C11_total) -/
theorem C09_decrypt_total (env : Env) (key : Key) (ls : List Layer) (w : String) :
    decrypt env key ls ≠ .panic w := C11_total env key ls w

end SamlVerif.Xmlenc
