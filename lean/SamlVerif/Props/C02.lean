/-
  C02 — SP enforces assertion and response validity windows at documented tolerances.

  "With the current time taken from the library clock, a response is accepted only if that time is
   no later than the Response and Assertion IssueInstant plus MaxIssueDelay, no earlier than
   Conditions.NotBefore minus MaxClockSkew, and no later than Conditions.NotOnOrAfter and every
   SubjectConfirmationData.NotOnOrAfter plus MaxClockSkew; an otherwise valid response strictly
   inside all of these windows is accepted.  The tolerances are exactly the public MaxIssueDelay and
   MaxClockSkew settings, whatever values they hold, and the windows hold for the assertion actually
   returned and for every one of its subject confirmations, whatever its position in the response."

  `cfg.delay`, `cfg.skew : Int`: negative and zero tolerances are included.
-/
import SamlVerif.Proofs.SPStruct

namespace SamlVerif.SP

structure Windows (cfg : Cfg) (now : Int) (r : ResponseS) (a : AssertionS) : Prop where
  respFresh : now ≤ r.issueInstant + cfg.delay
  assnFresh : now ≤ a.issueInstant + cfg.delay
  cond : ∃ c, a.conditions = some c ∧ c.notBefore - cfg.skew ≤ now ∧ now ≤ c.notOnOrAfter + cfg.skew
  confs : ∃ scs, a.subject = some scs ∧
            ∀ sc ∈ scs, ∃ d, sc.data = some d ∧ now ≤ d.notOnOrAfter + cfg.skew

/-- **Soundness**: the windows hold, at the configured tolerances, for the assertion actually
    returned, whatever its index, and for every one of its confirmations. -/
theorem C02_sound (cfg : Cfg) (now : Int) (ids : List String) (url : String) (need : Need)
    (respSig : SigState) (r : ResponseS) (a : AssertionS)
    (h : parseResponse cfg now ids url need respSig r = .ok a) : Windows cfg now r a := by
  obtain ⟨hr, e, -, hg, rfl⟩ := accept_sound h
  obtain ⟨c, hc, h1, h2, _⟩ := hg.valid.cond
  exact ⟨hr.fresh, hg.valid.fresh, ⟨c, hc, h1, h2⟩, hg.valid.forall_conf fun _ _ _ h => h⟩

/-- The returned assertion is one of the response's assertion children (no other content). -/
theorem C02_returned_is_child (cfg : Cfg) (now : Int) (ids : List String) (url : String)
    (need : Need) (respSig : SigState) (r : ResponseS) (a : AssertionS)
    (h : parseResponse cfg now ids url need respSig r = .ok a) : ∃ e ∈ r.entries, e.a = a := by
  obtain ⟨-, e, he, -, ha⟩ := accept_sound h
  exact ⟨e, he, ha⟩

/-- **Completeness**: a response whose response-level conditions hold and which contains an
    acceptable assertion child (in particular one strictly inside all windows) is accepted. -/
theorem C02_complete (cfg : Cfg) (now : Int) (ids : List String) (url : String) (need : Need)
    (respSig : SigState) (r : ResponseS)
    (hr : RespOK cfg now ids url need respSig r)
    (he : ∃ e ∈ r.entries, EntryGood cfg now ids (needAfter need respSig) e) :
    ∃ a, parseResponse cfg now ids url need respSig r = .ok a :=
  accept_exists_iff.mpr ⟨hr, he⟩

theorem C02_reject_stale_response (cfg now ids url need respSig r)
    (h : r.issueInstant + cfg.delay < now) :
    ∀ a, parseResponse cfg now ids url need respSig r ≠ .ok a :=
  fun _ ha => Int.not_lt.mpr (accept_sound ha).1.fresh h

theorem C02_reject_expired_confirmation (cfg now ids url need respSig r a)
    (h : parseResponse cfg now ids url need respSig r = .ok a) (scs : List SubjConf)
    (hs : a.subject = some scs) (sc : SubjConf) (hsc : sc ∈ scs) (d : SCData) (hd : sc.data = some d) :
    now ≤ d.notOnOrAfter + cfg.skew :=
  conf_of_forall_conf (C02_sound _ _ _ _ _ _ _ _ h).confs hs hsc hd

/-- The boundary is inclusive on every bound, as the property words it ("no later than"). -/
theorem C02_boundary_inclusive (cfg : Cfg) (ids : List String) (a : AssertionS) (c : Conditions)
    (d : SCData) (t : Int)
    (hi : a.issuer = cfg.idpEntityID) (hs : a.subject = some [⟨some d⟩]) (hc : a.conditions = some c)
    (hia : a.issueInstant + cfg.delay = t)
    (hnb : c.notBefore - cfg.skew = t) (hna : c.notOnOrAfter + cfg.skew = t)
    (hd : d.notOnOrAfter + cfg.skew = t) (hrec : d.recipient = cfg.acsURL)
    (hid : cfg.allowIdP = false → d.inResponseTo ∈ ids) (haud : AudienceOK cfg a c) :
    AssertionValid cfg t ids a :=
  ⟨Int.le_of_eq hia.symm, hi,
    ⟨_, hs, List.forall_mem_singleton.mpr ⟨d, rfl, hid, hrec, Int.le_of_eq hd.symm⟩⟩,
    c, hc, Int.le_of_eq hnb, Int.le_of_eq hna.symm, haud⟩

/-! Non-vacuity: a concrete response that is accepted, with two assertions of which the first is
    expired (so the returned one is at index 1) and two confirmations. -/
def exCfg : Cfg :=
  { idpEntityID := "idp", acsURL := "https://sp/acs", entityID := "sp", metadataURL := "https://sp/md",
    allowIdP := false, reqIdValidator := none, audValidator := none,
    delay := 90000, skew := 180000, statusSuccess := "Success" }

def exGood : AssertionS :=
  { issueInstant := 1000000, issuer := "idp",
    subject := some [⟨some ⟨"id-1", "https://sp/acs", 1000000⟩⟩, ⟨some ⟨"id-1", "https://sp/acs", 1090000⟩⟩],
    conditions := some ⟨1000000, 1090000, ["sp"]⟩, ident := "alice" }

def exStale : AssertionS := { exGood with issueInstant := 0, ident := "mallory" }

def exResp : ResponseS :=
  { destination := "https://sp/acs", inResponseTo := "id-1", issueInstant := 1000000,
    issuer := some "idp", status := "Success",
    entries := [⟨.plain, .valid, exStale⟩, ⟨.plain, .valid, exGood⟩] }

example : parseResponse exCfg 1090000 ["id-1"] "https://sp/acs" .required .absent exResp = .ok exGood := by
  decide +kernel

example : Windows exCfg 1090000 exResp exGood :=
  C02_sound exCfg 1090000 ["id-1"] "https://sp/acs" .required .absent exResp exGood (by decide +kernel)

end SamlVerif.SP
