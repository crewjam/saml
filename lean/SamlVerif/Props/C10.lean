/-
  C10 — XML encryption round-trips for every offered algorithm and interoperates.

  "For every plaintext, every key of the right size and every block cipher and key-transport
   algorithm the xmlenc package offers for encryption, decrypting what the package encrypted returns
   the plaintext unchanged. …"

  Full statement:   ∀ bc ∈ offered block ciphers, ∀ kt ∈ offered key transports ∪ {direct},
      Decrypt key (Encrypt bc kt key plaintext nonce) = plaintext.
  Proved: the framing theorems for every abstract block cipher / AEAD (`C10_cbc_roundtrip`,
  `C10_gcm_roundtrip_spec`, `C10_padding`), the table obligations at the regenerated facts
  (`C10_block_table`, `C10_keytransport_table`), and the composition `C10_all_offered_partial` for
  every offered combination whose block cipher runs in CBC mode.  AES-128-GCM *encryption* is a known
  finding of the pinned tree that its own golden file makes unrepairable (DESIGN §3); the
  counterexample is `C10_gcm_encrypt_counterexample`.
-/
import SamlVerif.Proofs.Xmlenc
import SamlVerif.Generated.Facts

namespace SamlVerif.Xmlenc

/-- xmlenc padding round-trips for every plaintext and every block size 1..255. -/
theorem C10_padding (p : Bytes) (bs : Nat) (h0 : 0 < bs) (h255 : bs ≤ 255) :
    stripPadding (appendPadding p bs) = .ok p := strip_append p bs h0 h255

/-- CBC: decrypt ∘ encrypt = id for every plaintext length (0 included), every IV of block length, every
    length-preserving invertible block cipher of block size 1..255 (`Block.Good`). -/
theorem C10_cbc_roundtrip (c : Block) (hc : c.Good) (iv : Bytes) (hiv : iv.length = c.bs) (p : Bytes) :
    cbcDecrypt c (cbcEncrypt c iv p) = .ok p := cbc_roundtrip c hc iv hiv p

/-- GCM as the W3C identifier prescribes it (nonce ‖ seal) round-trips through `GCM.Decrypt`. -/
theorem C10_gcm_roundtrip_spec (a : Aead) (ha : a.Good) (nonce p : Bytes) (hn : nonce.length = a.nonceSize) :
    gcmDecrypt a (gcmEncryptSpec a nonce p) = .ok p := by
  rw [gcmDecrypt_eq_ok_iff, gcmEncryptSpec, List.take_left' hn, List.drop_left' hn]
  exact ⟨by simp [hn], ha.openSeal nonce p hn⟩

/-- Every offered block cipher is a well-formed table entry (`BlockCipherFact.WF`), its decrypter registered. -/
theorem C10_block_table :
    ∀ f ∈ Facts.blockCiphers, f.WF Facts.registeredDecrypters = true := by
  simp [Facts.blockCiphers, Facts.registeredDecrypters, BlockCipherFact.WF, ctorAccepts, uriKeySize]

/-- Every offered key transport has a registered decrypter and writes a digest identifier that the
    decrypting side knows. -/
theorem C10_keytransport_table :
    ∀ f ∈ Facts.keyTransports, f.WF Facts.registeredDecrypters Facts.registeredDigests = true := by
  simp [Facts.keyTransports, Facts.registeredDecrypters, Facts.registeredDigests, KeyTransportFact.WF]

theorem C10_facts_extracted : Facts.extractionFailures = [] := rfl

/-- Every table entry's key is accepted by its constructor (so `Encrypt`/`Decrypt` reach the framing). -/
theorem C10_ctor_accepts (f : BlockCipherFact) (hf : f ∈ Facts.blockCiphers) :
    ∃ bs, ctorAccepts f.ctor f.keySize = some bs ∧ 0 < bs ∧ bs ≤ 255 := by
  have h := C10_block_table f hf
  simp only [BlockCipherFact.WF, Bool.and_eq_true, Option.isSome_iff_exists] at h
  obtain ⟨⟨⟨bs, h⟩, _⟩, _⟩ := h
  have := ctorAccepts_bs _ _ _ h
  exact ⟨bs, h, by omega, by omega⟩

/-- **Composition (partial: CBC-mode block ciphers)**.  For every offered CBC block cipher `f`,
    every key transport (modelled by the key it delivers: `rsaDec` returns the transported key, or the
    key is given directly), every key of the table's size, every IV and plaintext: the element the
    package builds — EncryptionMethod = f.algorithm, CipherValue = IV ‖ CBC(pad p) — decrypts to `p`
    through the registry dispatch. -/
theorem C10_all_offered_partial (env : Env) (f : BlockCipherFact) (hf : f ∈ Facts.blockCiphers)
    (hmode : f.mode = .cbc) (hreg : env.lookup f.algorithm = some (.block f))
    (kb : Bytes) (hk : kb.length = f.keySize) (c : Block) (hc : c.Good) (hblock : env.blockOf f kb = some c)
    (iv : Bytes) (hiv : iv.length = c.bs) (p : Bytes) (dg : Option String) (cert : Option Bool) :
    decrypt env (.bytes kb) [⟨some f.algorithm, dg, cert, .bytes (cbcEncrypt c iv p)⟩] = .ok p := by
  have := cbc_roundtrip c hc iv hiv p
  simp_all [decrypt, getCiphertext]

/-- … and with the content key delivered through an RSA key transport layer. -/
theorem C10_all_offered_transport_partial (env : Env) (f : BlockCipherFact)
    (hmode : f.mode = .cbc) (hreg : env.lookup f.algorithm = some (.block f))
    (kt : String) (s : RsaScheme) (hkt : env.lookup kt = some (.rsa s))
    (kb : Bytes) (hk : kb.length = f.keySize) (c : Block) (hc : c.Good) (hblock : env.blockOf f kb = some c)
    (iv : Bytes) (hiv : iv.length = c.bs) (p : Bytes)
    (id : Nat) (wrapped : Bytes) (d : String) (hd : env.digests.contains d = true)
    (hrsa : env.rsaDec s d id wrapped = some kb) :
    decrypt env (.rsa id)
      [⟨some f.algorithm, none, none, .bytes (cbcEncrypt c iv p)⟩,
       ⟨some kt, some d, some true, .bytes wrapped⟩] = .ok p := by
  have hinner : decrypt env (.rsa id) [⟨some kt, some d, some true, .bytes wrapped⟩] = .ok kb := by
    simp_all [decrypt, rsaDecrypt, getCiphertext]
  have := cbc_roundtrip c hc iv hiv p
  rw [decrypt_nested hreg hinner]
  simp_all [decrypt, getCiphertext]

/-- a toy AEAD: seal n p = p ‖ [sum of nonce bytes + length] -/
def toyAead : Aead :=
  { nonceSize := 2, overhead := 1,
    sealF := fun n p => p ++ [n.foldl (· + ·) 0 + UInt8.ofNat p.length],
    openF := fun n c =>
      match c.getLast? with
      | none => none
      | some t => if t = n.foldl (· + ·) 0 + UInt8.ofNat (c.length - 1) then some c.dropLast else none }

/-- What the pinned `GCM.Encrypt` emits does not decrypt to the plaintext (it is not even
    `nonce ‖ seal nonce p`): replayed on the real code by the correspondence check. -/
theorem C10_gcm_encrypt_counterexample :
    gcmDecrypt toyAead (gcmEncryptPinned toyAead 16 [7, 9] [1, 2, 3]) ≠ .ok [1, 2, 3] := by decide

/-! Non-vacuity: the hypotheses of the round-trip theorems are satisfiable. -/
def idBlock : Block := ⟨16, id, id⟩
example : idBlock.Good := ⟨by decide, by decide, fun _ h => h, fun _ _ => rfl⟩
example : cbcDecrypt idBlock (cbcEncrypt idBlock (List.replicate 16 5) []) = .ok [] := by decide +kernel
example : cbcDecrypt (toyBlock [9, 8, 7] 8) (cbcEncrypt (toyBlock [9, 8, 7] 8) (List.replicate 8 3)
    [1, 2, 3, 4, 5, 6, 7, 8, 9]) = .ok [1, 2, 3, 4, 5, 6, 7, 8, 9] := by decide +kernel

end SamlVerif.Xmlenc
