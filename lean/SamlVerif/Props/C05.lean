/-
  C05 — IdP answers only valid requests and routes only to registered ACS endpoints.

  "The IdP processes an authentication request only if it is fresh (IssueInstant within
   MaxIssueDelay of the IdP clock), is SAML version 2.0, names the IdP's SSO URL as Destination
   whenever it names one, and is issued by a service provider known to the IdP's provider registry.
   Whenever processing succeeds, the endpoint selected to receive the response is one of the
   assertion consumer services listed in that registered provider's metadata - chosen by the
   requested index, else the requested URL, else the default/first browser-binding endpoint - and
   never a location that appears only in the request."

  Freshness is read one-sidedly (`now ≤ IssueInstant + MaxIssueDelay`), as the anchored code and
  C02 word it; a future-dated request is not treated as a violation (DESIGN §2 C05).
-/
import SamlVerif.Proofs.IdP

namespace SamlVerif.IdP

/-- **Guards**: processing succeeds only for a fresh, version-2.0 request whose Destination (if
    any) is the IdP's SSO URL and whose issuer is known to the registry. -/
theorem C05_guards (cfg : Cfg) (now : Int) (reg : String → Lookup) (req : AuthnRequestS) (ρ : Routing)
    (h : validate cfg now reg req = .ok ρ) :
    now ≤ req.issueInstant + cfg.delay ∧ req.version = "2.0" ∧
    (req.destination = "" ∨ req.destination = cfg.ssoURL) ∧
    ∃ iss, req.issuer = some iss ∧ reg iss = .found ρ.md := by
  obtain ⟨hd, hf, hv, iss, hi, hr, _⟩ := validate_eq_ok.mp h
  exact ⟨hf, hv, hd, iss, hi, hr⟩

/-- **Registered endpoint**: the selected endpoint is one of the assertion consumer services listed
    in the registered provider's metadata — never a location that appears only in the request. -/
theorem C05_endpoint_registered (cfg : Cfg) (now : Int) (reg : String → Lookup) (req : AuthnRequestS)
    (ρ : Routing) (h : validate cfg now reg req = .ok ρ) :
    ρ.desc ∈ ρ.md.spsso ∧ ρ.acs ∈ ρ.desc.acs := by
  obtain ⟨_, _, _, _, _, _, hs⟩ := validate_eq_ok.mp h
  exact mem_allEndpoints.mp (selectACS_sound hs).1

/-- **Priority**: by requested index (first match in document order), else by requested URL, else —
    only when the request names neither — the first default browser-binding endpoint, else the first
    browser-binding endpoint. -/
theorem C05_priority (md : EntityDesc) (req : AuthnRequestS) :
    selectACS md req =
      (if req.acsIndex ≠ "" ∧ ((allEndpoints md).find? (fun p => toString p.2.index = req.acsIndex)).isSome then
         (allEndpoints md).find? (fun p => toString p.2.index = req.acsIndex)
       else if req.acsURL ≠ "" ∧ ((allEndpoints md).find? (fun p => p.2.location = req.acsURL)).isSome then
         (allEndpoints md).find? (fun p => p.2.location = req.acsURL)
       else if req.acsURL = "" ∧ req.acsIndex = "" then
         ((allEndpoints md).find? (fun p => p.2.isDefault = some true && isBrowserBinding p.2.binding)).or
           ((allEndpoints md).find? (fun p => isBrowserBinding p.2.binding))
       else none) := by
  -- the definition branches on nothing but the two "is it given" tests and the outcome of three searches
  simp only [selectACS]
  generalize List.find? (fun p => toString p.2.index = req.acsIndex) (allEndpoints md) = byIndex
  generalize List.find? (fun p => p.2.location = req.acsURL) (allEndpoints md) = byURL
  generalize List.find? (fun p => p.2.isDefault = some true && isBrowserBinding p.2.binding) (allEndpoints md) = dflt
  by_cases hi : req.acsIndex = "" <;> by_cases hu : req.acsURL = ""
  · cases dflt <;> simp [hi, hu]
  · cases byURL <;> simp [hi, hu]
  · cases byIndex <;> simp [hi, hu]
  · cases byIndex <;> cases byURL <;> simp [hi, hu]

theorem C05_selected_matches (md : EntityDesc) (req : AuthnRequestS) (p : SPSSO × Endpoint)
    (h : selectACS md req = some p) :
    (req.acsIndex ≠ "" ∧ toString p.2.index = req.acsIndex) ∨
    (req.acsURL ≠ "" ∧ p.2.location = req.acsURL) ∨
    (req.acsURL = "" ∧ req.acsIndex = "" ∧ isBrowserBinding p.2.binding = true) :=
  (selectACS_sound h).2

/-- IdP-initiated: the selected endpoint is the first HTTP-POST ACS of the registered metadata. -/
theorem C05_idp_initiated (md : EntityDesc) (p : SPSSO × Endpoint) (h : selectIdpInitiated md = some p) :
    p.1 ∈ md.spsso ∧ p.2 ∈ p.1.acs ∧ p.2.binding = postBinding := by
  have hm := mem_allEndpoints.mp (List.mem_of_find?_eq_some h)
  exact ⟨hm.1, hm.2, by simpa using List.find?_some h⟩

/-- **Totality**: request validation never panics (a request without Issuer is an error). -/
theorem C05_total (cfg : Cfg) (now : Int) (reg : String → Lookup) (req : AuthnRequestS) (w : String) :
    validate cfg now reg req ≠ .panic w := by
  fun_cases validate cfg now reg req <;> simp

/-- The pinned tree: a request without Issuer panics `Validate`. -/
theorem C05_pinned_panics :
    validatePinned ⟨"https://idp/sso", 90000⟩ 0 (fun _ => .notExist)
      ⟨"id", none, "", "2.0", 0, "", ""⟩ = .panic "nil pointer dereference" := by decide +kernel

def exMd : EntityDesc :=
  ⟨"sp", [⟨[⟨redirectBinding, "https://sp/r", 1, none⟩, ⟨postBinding, "https://sp/acs", 2, some true⟩], [], []⟩]⟩

example : (validate ⟨"https://idp/sso", 90000⟩ 50000 (fun i => if i = "sp" then .found exMd else .notExist)
    ⟨"id", some "sp", "", "2.0", 0, "", ""⟩).isOk = true := by decide +kernel
example : selectACS exMd ⟨"id", some "sp", "", "2.0", 0, "https://evil/acs", ""⟩ = none := by decide +kernel
example : (selectACS exMd ⟨"id", some "sp", "", "2.0", 0, "https://evil/acs", "1"⟩).map (·.2.location) =
    some "https://sp/r" := by decide +kernel

end SamlVerif.IdP
