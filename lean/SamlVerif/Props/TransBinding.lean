/-
  Props/TransBinding — where the SP sends its requests (service_provider.go `GetSSOBindingLocation`, `GetSLOBindingLocation`,
  `GetArtifactBindingLocation`, regenerated): the location is that of the first endpoint, in document order over all IdP role
  descriptors, whose binding is the one asked for — and the empty string when the IdP publishes none (C12: "the configured …
  destination"; it is what `samlsp`'s `HandleStartAuthFlow` decides on, `startFlow_binding`).
-/
import SamlVerif.Generated.Trans
import SamlVerif.Proofs.GoInv
open SamlVerif SamlVerif.GoSem
namespace SamlVerif.TransBinding

def firstLocation (ends : List Trans.Endpoint) (b : String) : String :=
  match ends.find? (fun e => e.Binding == b) with
  | some e => e.Location
  | none => ""

/-- the loop the three `Get…BindingLocation` share, over any descriptors `ds` and any endpoint list `g d` of theirs -/
theorem bindingLocation {δ : Type} (ds : List δ) (g : δ → List Trans.Endpoint) (b : String) :
    (do for d in ds do
          for e in g d do
            if e.Binding == b then return e.Location
        return "" : Outcome String) = .ok (firstLocation (ds.flatMap g) b) := by
  simp only [Outcome.pure_eq_ok]
  rw [forIn_find_nested ds g _ _ (·.Binding == b) (fun q => (some q.2.Location, ()))]
  · rw [firstLocation, ← find?_pairs ds g]
    cases List.find? _ _ <;> rfl
  · intro d _
    rw [forIn_find _ _ _ (·.Binding == b) (fun e => (some e.Location, ())) fun e _ => by split <;> rfl]
    cases List.find? _ _ <;> rfl

theorem GetSSOBindingLocation_eq (env : Trans.Env) (sp : Trans.ServiceProvider) (md : Trans.EntityDescriptor) (b : String)
    (h : sp.IDPMetadata = some md) :
    Trans.GetSSOBindingLocation env sp b =
      .ok (firstLocation (md.IDPSSODescriptors.flatMap (·.SingleSignOnServices)) b) := by
  simp only [Trans.GetSSOBindingLocation, h, deref_some, Outcome.ok_bind']
  exact bindingLocation md.IDPSSODescriptors (·.SingleSignOnServices) b

theorem GetSLOBindingLocation_eq (env : Trans.Env) (sp : Trans.ServiceProvider) (md : Trans.EntityDescriptor) (b : String)
    (h : sp.IDPMetadata = some md) :
    Trans.GetSLOBindingLocation env sp b =
      .ok (firstLocation (md.IDPSSODescriptors.flatMap (·.SingleLogoutServices)) b) := by
  simp only [Trans.GetSLOBindingLocation, h, deref_some, Outcome.ok_bind']
  exact bindingLocation md.IDPSSODescriptors (·.SingleLogoutServices) b

/-- a non-empty answer is the location of an endpoint the IdP publishes under that binding -/
theorem GetSSOBindingLocation_published (env : Trans.Env) (sp : Trans.ServiceProvider) (md : Trans.EntityDescriptor) (b loc : String)
    (h : sp.IDPMetadata = some md) (hl : Trans.GetSSOBindingLocation env sp b = .ok loc) (hne : loc ≠ "") :
    ∃ d ∈ md.IDPSSODescriptors, ∃ e ∈ d.SingleSignOnServices, e.Binding = b ∧ e.Location = loc := by
  cases (GetSSOBindingLocation_eq env sp md b h).symm.trans hl
  unfold firstLocation at hne
  split at hne
  · next e hf =>
    obtain ⟨d, hd, he⟩ := List.mem_flatMap.mp (List.mem_of_find?_eq_some hf)
    exact ⟨d, hd, e, he, by simpa using List.find?_some hf, by rw [firstLocation, hf]⟩
  · exact absurd rfl hne

/-- no IdP metadata: a nil-dereference panic, not a location -/
example (env : Trans.Env) (sp : Trans.ServiceProvider) (h : sp.IDPMetadata = none) :
    Trans.GetSSOBindingLocation env sp "b" = .panic "nil dereference" := by
  simp [Trans.GetSSOBindingLocation, h]

theorem GetArtifactBindingLocation_eq (env : Trans.Env) (sp : Trans.ServiceProvider) (md : Trans.EntityDescriptor) (b : String)
    (h : sp.IDPMetadata = some md) :
    Trans.GetArtifactBindingLocation env sp b =
      .ok (match (md.IDPSSODescriptors.flatMap (·.ArtifactResolutionServices)).find? (fun e => e.Binding == b) with
           | some e => e.Location
           | none => "") := by
  simp only [Trans.GetArtifactBindingLocation, h, deref_some, Outcome.ok_bind']
  exact bindingLocation md.IDPSSODescriptors (·.ArtifactResolutionServices) b

/-- C12 (service_provider.go `nameIDFormat`): the name-ID format that goes on the wire is the configured one — transient when none is
    configured, none at all for "unspecified" — whatever string the configuration holds, a constant of the package or not -/
theorem nameIDFormat_eq (env : Trans.Env) (sp : Trans.ServiceProvider) :
    Trans.nameIDFormat env sp =
      .ok (if sp.AuthnNameIDFormat = "" then "urn:oasis:names:tc:SAML:2.0:nameid-format:transient"
           else if sp.AuthnNameIDFormat = "urn:oasis:names:tc:SAML:1.1:nameid-format:unspecified" then ""
           else sp.AuthnNameIDFormat) := by
  simp only [Trans.nameIDFormat, Outcome.pure_eq_ok, beq_iff_eq]
  split
  · rfl
  · split <;> rfl

end SamlVerif.TransBinding
