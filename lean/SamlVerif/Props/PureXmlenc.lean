/-
  The models' reading of "for all sequences of message creations / validations" — package xmlenc.

  Every model of a Decrypt / Encrypt method is a *function* of the configuration value and the message, so a
  sequence of calls is the single call repeated and the per-call theorems hold for every call of every
  sequence.  That is the code's behaviour only while the code keeps no state between calls.  These are
  obligations at the regenerated hidden-state facts (extract/state.go): the package-level variables are the algorithm tables (written only by `init`-time registration), `RandReader`, and the fuzz key.
  A cache on the configuration value, a buffer pool or memo table at package level, break one of them
  whatever the generators happen to reach (the harness's stateful sequences are the search for the
  failing history).
-/
import SamlVerif.Generated.Facts

namespace SamlVerif.Pure

theorem Pure_xmlenc_package_state : Facts.packageState_xmlenc =
    ["xmlenc.AES128CBC (literal CBC)", "xmlenc.AES128GCM (literal GCM)", "xmlenc.AES192CBC (literal CBC)",
     "xmlenc.AES256CBC (literal CBC)", "xmlenc.RIPEMD160 (literal digestMethod)", "xmlenc.RandReader (expr)",
     "xmlenc.SHA1 (literal digestMethod)", "xmlenc.SHA256 (literal digestMethod)", "xmlenc.SHA512 (literal digestMethod)",
     "xmlenc.TripleDES (literal CBC)", "xmlenc.decrypters (literal <*ast.MapType>)",
     "xmlenc.digestMethods (literal <*ast.MapType>)", "xmlenc.testKey (call <*ast.FuncLit>)"] := rfl

end SamlVerif.Pure
