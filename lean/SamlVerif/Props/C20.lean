/-
  C20 — The bundled IdP server and its store are safe under concurrent requests.

  "The bundled IdP server and its in-memory store may be used from concurrent requests: for every
   interleaving of management calls, logins, SSO and IdP-initiated requests there is no data race and
   no deadlock - every request completes - and the store's Get/Put/Delete/List results are
   linearizable with respect to a simple key-value map."

  The lock programs of every store method and handler are *regenerated from the current source*
  (Generated/Facts.lean).  The discipline `C20_programs_well_formed` checks on them is all that the
  theorems of `Proofs/Locks` ask of a program, so those hold for *any number of threads running any
  of these programs in any interleaving*.
  Partial: the Go memory model and scheduler are represented by interleaving at event granularity;
  races on state other than the two maps are only sampled by the harness's `-race` stress run.
-/
import SamlVerif.Proofs.Locks
import SamlVerif.Generated.Facts

namespace SamlVerif.Locks

/-- mutex 1 (MemoryStore.mu) guards variable 0 (MemoryStore.data);
    mutex 0 (Server.idpConfigMu) guards variable 1 (Server.serviceProviders) -/
def protects : Protects := fun x => if x = 0 then 1 else 0

/-- **Obligation at the regenerated facts**: every extracted program obeys the lock discipline. -/
theorem C20_programs_well_formed :
    (∀ p ∈ Facts.storePrograms, wellFormed protects p.2 = true) ∧
    (∀ p ∈ Facts.handlerPrograms, wellFormed protects p.2 = true) := by decide

/-- an extraction that lost programs would only make the obligation above easier: their number is one too -/
theorem C20_programs_found : Facts.storePrograms.length = 4 ∧ 20 ≤ Facts.handlerPrograms.length := by decide

theorem C20_facts_extracted : Facts.extractionFailures = [] := by decide

/-- the programs any request can run -/
def allPrograms : List Prog := (Facts.storePrograms ++ Facts.handlerPrograms).map (·.2)

theorem allPrograms_wf : ∀ p ∈ allPrograms, wellFormed protects p = true := by
  simp only [allPrograms, List.forall_mem_map, List.forall_mem_append]
  exact C20_programs_well_formed

/-- **No data race**: start any number of concurrent requests, each running one of the extracted
    programs; in every reachable interleaving no two threads are simultaneously about to access the
    same shared map with one of them writing, and a write lock excludes every other holder. -/
theorem C20_race_free (progs : List Prog) (hsub : ∀ p ∈ progs, p ∈ allPrograms) (ts : List Thread)
    (hr : Reach (start progs) ts) :
    ts.Pairwise (fun a b => ¬ Conflict a b) ∧ ts.Pairwise Compatible :=
  race_free (fun p hp => allPrograms_wf p (hsub p hp)) hr

/-- **No deadlock**: in every reachable interleaving with an unfinished request, some request can
    take its next step — so under a fair scheduler every request completes. -/
theorem C20_deadlock_free (progs : List Prog) (hsub : ∀ p ∈ progs, p ∈ allPrograms) (ts : List Thread)
    (hr : Reach (start progs) ts) (hun : ∃ t ∈ ts, t.todo ≠ []) :
    ∃ pre t post, ts = pre ++ t :: post ∧ canFire t (pre ++ post) = true :=
  deadlock_free (fun p hp => allPrograms_wf p (hsub p hp)) hr hun

def singleCriticalSection (p : Prog) : Bool :=
  match p with
  | .lock m :: rest => rest.getLast? = some (.unlock m) && (rest.dropLast.all fun e => match e with | .read _ | .write _ => true | _ => false)
  | .rlock m :: rest => rest.getLast? = some (.runlock m) && (rest.dropLast.all fun e => match e with | .read _ => true | _ => false)
  | _ => false

/-- **Linearizability of the store**: every store method is one critical section on one mutex, with
    its map accesses inside it; by `C20_race_free` critical sections of a writer never overlap any
    other critical section, so each operation takes effect atomically at a point between its
    invocation and its return (its critical section) — the order of critical sections is a
    linearization.  Stated on the programs: exactly one acquisition, first event, released last. -/
theorem C20_store_single_critical_section : ∀ p ∈ Facts.storePrograms, singleCriticalSection p.2 = true := by decide

/-! ### why the discipline matters: the pinned tree's two defects as model witnesses -/

/-- re-entrant read lock: a handler that holds the registry read lock and takes it again deadlocks
    against a concurrent writer (the schedule: reader takes R, writer announces Lock, reader's second
    RLock queues behind the writer) -/
theorem C20_reentrant_rlock_deadlocks :
    -- request A has taken the read lock once; request B (a writer) arrives; A wants the read lock again
    deadlocked [⟨[.rlock 0], [.rlock 0, .runlock 0, .runlock 0]⟩, ⟨[], [.lock 0, .unlock 0]⟩] = true := by
  decide

theorem C20_reentrant_not_well_formed : wellFormed protects [.rlock 0, .rlock 0, .runlock 0, .runlock 0] = false := by decide

/-- an unlocked `List` conflicts with a concurrent `Put` -/
theorem C20_unlocked_list_races :
    conflictNow (runSchedule (start [[.lock 1, .write 0, .unlock 1], [.read 0]]) [0]) = true := by decide

/-! Non-vacuity: a handler that reads the registry and then writes the store is well formed -/
example : wellFormed protects [.rlock 0, .read 1, .runlock 0, .lock 1, .write 0, .unlock 1] = true := by decide

end SamlVerif.Locks
