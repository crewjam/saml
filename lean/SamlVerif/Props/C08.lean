/-
  C08 — assertions for SPs that publish an encryption key never leave the IdP in clear.

  * selection: `getSPEncryptionCert` answers "no key" only when the metadata advertises none; every
    malformed, empty or unusable certificate is an error, never a silent downgrade;
  * clear view: for an encrypted response, everything outside the EncryptedAssertion is a function of
    the endpoint, the request and the IdP configuration — identical for any two sessions;
  * freshness: the library's draws from `RandReader` (content key, IV, Ids) occupy pairwise disjoint
    segments of the random stream, within one response and across responses;
  * SP side: a decrypted assertion goes through exactly the checks of a plaintext one, and ciphertext
    that does not decrypt is a validation failure.
  The cipher itself (RSA-OAEP, AES-CBC) is not modelled: the harness decrypts every emitted response
  with the SP key and with a foreign key (trusted base, see DESIGN).
-/
import SamlVerif.Proofs.SPStruct
import SamlVerif.Proofs.IdP
import SamlVerif.Generated.Facts

namespace SamlVerif.IdPOut
open SamlVerif.IdP

/-- the metadata advertises an encryption key: a descriptor marked `use="encryption"`, or an
    unmarked descriptor carrying a certificate -/
def Advertises (keys : List KeyDesc) : Prop :=
  (∃ k ∈ keys, k.use = "encryption") ∨ (∃ k ∈ keys, k.use = "" ∧ (firstCert k).isSome = true)

theorem advertises_iff (keys : List KeyDesc) : Advertises keys ↔
    (keys.find? (fun k => k.use = "encryption")).isSome = true ∨
    (keys.find? (fun k => k.use = "" && (firstCert k).isSome)).isSome = true := by
  simp [Advertises, List.find?_isSome]

theorem selectEncCert_none_iff (keys : List KeyDesc) :
    selectEncCert keys = .ok .none ↔ ¬ Advertises keys := by
  rw [advertises_iff]
  fun_cases selectEncCert keys
  case case4 k hk hc =>
    -- cannot happen: the second search only returns descriptors that carry a certificate
    have hk := List.find?_some hk
    simp [hc] at hk
  all_goals simp [*]

/-- the assertion travels in clear exactly when no encryption key is advertised -/
theorem C08_plaintext_iff (usable : String → Bool) (keys : List KeyDesc) :
    encryptionOf usable keys = .ok false ↔ ¬ Advertises keys := by
  simp [← selectEncCert_none_iff, encryptionOf_eq_ok]

/-- **C08 (no downgrade)**: any other outcome of the selection is either "encrypt" or an error. -/
theorem C08_no_downgrade (usable : String → Bool) (keys : List KeyDesc) (h : Advertises keys) :
    encryptionOf usable keys = .ok true ∨ ∃ e, encryptionOf usable keys = .err e := by
  cases hr : encryptionOf usable keys with
  | ok b =>
    cases b
    · exact absurd h ((C08_plaintext_iff usable keys).mp hr)
    · exact .inl rfl
  | err e => exact .inr ⟨e, rfl⟩
  | panic w => exact absurd hr (encryptionOf_ne_panic usable keys w)

/-- a certificate that does not decode, or whose key cannot be used for key transport, is an error -/
theorem C08_bad_certificate_is_error (usable : String → Bool) (keys : List KeyDesc) (c : String)
    (hs : selectEncCert keys = .ok (.cert c)) (hu : usable c = false) :
    encryptionOf usable keys = .err "bad-encryption-certificate" := by
  simp [encryptionOf, hs, hu]

/-- an encryption descriptor with no certificate or an empty one is an error even when other
    descriptors hold good certificates -/
theorem C08_empty_certificate_is_error (keys : List KeyDesc) (k : KeyDesc)
    (hk : keys.find? (fun k => k.use = "encryption") = some k) (he : firstCert k = none) (usable : String → Bool) :
    encryptionOf usable keys = .err "encryption-descriptor-without-certificate" := by
  simp [encryptionOf, selectEncCert, hk, he]

/-- the encryption descriptor wins over unmarked ones, the first of several wins -/
theorem C08_selected_certificate (keys : List KeyDesc) (c : String) (h : selectEncCert keys = .ok (.cert c)) :
    (∃ k, keys.find? (fun k => k.use = "encryption") = some k ∧ firstCert k = some c) ∨
    (keys.find? (fun k => k.use = "encryption") = none ∧
      ∃ k, keys.find? (fun k => k.use = "" && (firstCert k).isSome) = some k ∧ firstCert k = some c) := by
  revert h
  fun_cases selectEncCert keys
  case case1 k hk c' hc =>
    rintro ⟨⟩
    exact .inl ⟨k, hk, hc⟩
  case case3 h1 k hk c' hc =>
    rintro ⟨⟩
    exact .inr ⟨h1, k, hk, hc⟩
  all_goals nofun

/-- the pinned selection downgraded: an empty certificate in the encryption descriptor hid a later
    good one and the assertion went out in clear -/
theorem C08_pinned_downgrade :
    selectEncCertPinned [⟨"encryption", [""]⟩, ⟨"encryption", ["MIIB"]⟩] = .ok .none ∧
    selectEncCert [⟨"encryption", [""]⟩, ⟨"encryption", ["MIIB"]⟩] =
      .err "encryption-descriptor-without-certificate" := by decide +kernel

/-- the source sends the signed assertion unencrypted under one condition only -/
theorem C08_plaintext_only_when_not_exist : Facts.idpPlaintextConditions = ["err == os.ErrNotExist"] := rfl
/-- the source encrypts with RSA-OAEP / AES-128-CBC / SHA-1, as the model's producer assumes -/
theorem C08_encryptor : Facts.idpEncryptorParams =
    ["encryptor=xmlenc.OAEP()", "encryptor.BlockCipher=xmlenc.AES128CBC", "encryptor.DigestMethod=&xmlenc.SHA1"] :=
  rfl
theorem C08_extraction_clean : Facts.extractionFailures = [] := rfl

/-- everything of a response that is outside the (possibly encrypted) assertion -/
def envelope (r : ResponseOut) : List String :=
  [r.url, r.destination, r.inResponseTo, toString r.issueInstant, r.issuer, r.status]

/-- what an observer of the form sees in clear -/
def clearView (r : ResponseOut) : List String × Option AssertionOut :=
  (envelope r, if r.encrypted then none else some r.assertion)

/-- **C08 (no clear strings)**: with an advertised key, two users' responses to the same request
    are indistinguishable outside the ciphertext — nothing of the session (name identifier, attribute
    values, session index) is in the clear part. -/
theorem C08_clear_view_independent (cfg : IdpCfg) (usable : String → Bool) (ρ : Routing) (q : Request)
    (s s' : Session) (reqNow now : Int) (r r' : ResponseOut) (hadv : Advertises ρ.desc.keys)
    (h : produce cfg usable ρ q s reqNow now = .ok r) (h' : produce cfg usable ρ q s' reqNow now = .ok r') :
    r.encrypted = true ∧ clearView r = clearView r' := by
  obtain ⟨enc, he, hr⟩ := produce_eq_ok.mp h
  obtain ⟨enc', he', hr'⟩ := produce_eq_ok.mp h'
  cases he.symm.trans he'
  cases enc
  · exact absurd hadv ((C08_plaintext_iff usable _).mp he)
  obtain ⟨_, rfl⟩ := respond_eq_ok.mp hr
  obtain ⟨_, rfl⟩ := respond_eq_ok.mp hr'
  exact ⟨rfl, rfl⟩

/-- the clear part of any response carries none of the session's strings unless the deployment's
    own identifiers coincide with them -/
theorem C08_envelope_sources (cfg : IdpCfg) (usable : String → Bool) (ρ : Routing) (q : Request) (s : Session)
    (reqNow now : Int) (r : ResponseOut) (h : produce cfg usable ρ q s reqNow now = .ok r) :
    envelope r = [ρ.acs.location, ρ.acs.location, q.id, toString reqNow, cfg.entityID,
                  "urn:oasis:names:tc:SAML:2.0:status:Success"] := by
  obtain ⟨enc, _, hr⟩ := produce_eq_ok.mp h
  obtain ⟨_, rfl⟩ := respond_eq_ok.mp hr
  rfl

theorem layout_lower (off : Nat) (ds : List Draw) : ∀ x ∈ layout off ds, off ≤ x.2.1 := by
  induction ds generalizing off with
  | nil => nofun
  | cons d rest ih =>
    exact List.forall_mem_cons.mpr ⟨Nat.le_refl _, fun x hx => Nat.le_trans (Nat.le_add_right _ _) (ih _ x hx)⟩

/-- **C08 (fresh)**: segments of one stream handed out by consecutive draws never overlap — each
    byte of randomness is used for one purpose in one response only. -/
theorem C08_draws_disjoint (off : Nat) (ds : List Draw) :
    (layout off ds).Pairwise (fun a b => a.2.1 + a.2.2 ≤ b.2.1) := by
  induction ds generalizing off with
  | nil => exact .nil
  | cons d rest ih => exact List.pairwise_cons.mpr ⟨layout_lower _ rest, ih _⟩

/-- across any number of responses, every content key and every IV comes from its own segment -/
theorem C08_fresh (kts : List Nat) :
    (layout 0 (runDraws kts)).Pairwise (fun a b => a.2.1 + a.2.2 ≤ b.2.1) :=
  C08_draws_disjoint 0 _

/-- per response exactly one content key of the cipher's key size and one IV of its block size are
    drawn (sizes for AES-128-CBC, the cipher named by `Facts.idpEncryptorParams`) -/
theorem C08_one_key_one_iv (kt : Nat) :
    ((responseDraws kt).filter (·.label = "content-key")).map (·.size) = [16] ∧
    ((responseDraws kt).filter (·.label = "iv")).map (·.size) = [16] := by
  constructor <;> rfl

/-- **C08 (same checks)**: a decrypted assertion is validated exactly like a plaintext one -/
theorem C08_same_checks (cfg : SP.Cfg) (now : Int) (ids : List String) (need : SP.Need) (sig : SP.SigState)
    (a : SP.AssertionS) :
    SP.parseEntry cfg now ids need ⟨.encOk, sig, a⟩ = SP.parseEntry cfg now ids need ⟨.plain, sig, a⟩ := by
  simp [SP.parseEntry]

/-- ciphertext that does not decrypt or parse is a validation failure -/
theorem C08_bad_ciphertext_is_error (cfg : SP.Cfg) (now : Int) (ids : List String) (need : SP.Need)
    (sig : SP.SigState) (a : SP.AssertionS) :
    SP.parseEntry cfg now ids need ⟨.encBad, sig, a⟩ = .err "decrypt" := by
  simp [SP.parseEntry]

/-- an assertion encrypted to the SP by a party without the IdP key (so neither the response nor the
    assertion carries a valid IdP signature) is never accepted when signatures are required -/
theorem C08_attacker_encrypted_rejected (cfg : SP.Cfg) (now : Int) (ids : List String) (url : String)
    (respSig : SP.SigState) (r : SP.ResponseS) (a : SP.AssertionS)
    (hresp : respSig ≠ .valid) (hent : ∀ e ∈ r.entries, e.sig ≠ .valid) :
    SP.parseResponse cfg now ids url .required respSig r ≠ .ok a := by
  intro h
  obtain ⟨_, e, he, hg, _⟩ := SP.accept_sound h
  exact hent e he (hg.signed (by simp [SP.needAfter, hresp]))

example : Advertises [⟨"signing", ["MIIA"]⟩, ⟨"encryption", ["MIIB"]⟩] :=
  Or.inl ⟨⟨"encryption", ["MIIB"]⟩, by simp, rfl⟩
example : ¬ Advertises [⟨"signing", ["MIIA"]⟩] := by
  rintro (⟨k, hk, hu⟩ | ⟨k, hk, hu, _⟩) <;> simp at hk <;> subst hk <;> simp at hu
example : encryptionOf (fun _ => true) [⟨"signing", ["MIIA"]⟩, ⟨"", ["MIIC"]⟩] = .ok true := by decide +kernel
example : encryptionOf (fun _ => false) [⟨"", ["MIIC"]⟩] = .err "bad-encryption-certificate" := by decide +kernel
example : (layout 0 (runDraws [20, 21])).length = 14 := by decide +kernel

end SamlVerif.IdPOut
