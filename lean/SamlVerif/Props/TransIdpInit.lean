/-
  Props/TransIdpInit — the endpoint selection of `IdentityProvider.ServeIDPInitiated`, regenerated from the current
  identity_provider.go as `Trans.idpInitiatedSelect`: the statements from `for _, spssoDescriptor := range
  req.ServiceProviderMetadata.SPSSODescriptors` up to (excluding) `if req.ACSEndpoint == nil`, with the local `req` as state.
-/
import SamlVerif.Props.TransIdP
open SamlVerif SamlVerif.GoSem
namespace SamlVerif.TransIdP

def isPost (e : Trans.IndexedEndpoint) : Bool := e.Binding == "urn:oasis:names:tc:SAML:2.0:bindings:HTTP-POST"

/-- **C05, IdP-initiated clause, on the translated code**: the loop of `ServeIDPInitiated` that picks the endpoint leaves in the
    request the first HTTP-POST assertion consumer service of the registered metadata (document order), and nothing when there is
    none — never anything that is not listed there.  `h0`: the `req` literal the handler builds before the range sets no endpoint;
    with one set, the outer loop's `if req.ACSEndpoint != nil { break }` would stop after the first descriptor. -/
theorem idpInitiatedSelect_eq (env : Trans.Env) (req : Trans.IdpAuthnRequest) (md : Trans.EntityDescriptor)
    (h : req.ServiceProviderMetadata = some md) (h0 : req.ACSEndpoint = none) :
    Trans.idpInitiatedSelect env req =
      .ok (match (pairs md).find? (fun p => isPost p.2) with | some p => chosen req p | none => req, ()) := by
  unfold Trans.idpInitiatedSelect
  simp only [h, deref_some, Outcome.ok_bind', Outcome.pure_eq_ok]
  rw [forIn_find_nested md.SPSSODescriptors (·.AssertionConsumerServices) req _ isPost (chosen req)]
  · rw [pairs]
    cases List.find? _ _ <;> rfl
  · intro d _
    rw [forIn_find _ _ _ isPost (fun e => chosen req (d, e)) fun e _ => by rw [isPost]; split <;> rfl]
    cases List.find? isPost d.AssertionConsumerServices <;> simp [chosen, h0]

/-- whatever is selected is listed in the registered metadata, and is an HTTP-POST endpoint -/
theorem idpInitiatedSelect_registered (env : Trans.Env) (req req' : Trans.IdpAuthnRequest) (md : Trans.EntityDescriptor)
    (h : req.ServiceProviderMetadata = some md) (h0 : req.ACSEndpoint = none)
    (hr : Trans.idpInitiatedSelect env req = .ok (req', ())) (e : Trans.IndexedEndpoint) (he : req'.ACSEndpoint = some e) :
    ∃ d ∈ md.SPSSODescriptors, e ∈ d.AssertionConsumerServices ∧ req'.SPSSODescriptor = some d ∧
      e.Binding = "urn:oasis:names:tc:SAML:2.0:bindings:HTTP-POST" := by
  cases (idpInitiatedSelect_eq env req md h h0).symm.trans hr
  cases hf : (pairs md).find? (fun p => isPost p.2) with
  | none =>
    simp only [hf, h0] at he
    cases he
  | some p =>
    simp only [hf] at he ⊢
    cases he
    have hm := (mem_pairs md p).1 (List.mem_of_find?_eq_some hf)
    exact ⟨p.1, hm.1, hm.2, rfl, by simpa [isPost] using List.find?_some hf⟩

/-- the hand model's `selectIdpInitiated` is the same rule -/
theorem idpInitiatedSelect_abs (md : Trans.EntityDescriptor) :
    ((pairs md).find? (fun p => isPost p.2)).map absP = IdP.selectIdpInitiated (absMD md) := by
  unfold IdP.selectIdpInitiated
  rw [allEndpoints_abs, List.find?_map]
  congr 2

end SamlVerif.TransIdP
