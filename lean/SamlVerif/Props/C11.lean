/-
  C11 — XML decryption is total and rejects malformed or mismatched ciphertext.

  "Decrypt returns either plaintext or an error for every element and key - never a panic -
   including truncated, non-block-aligned or empty cipher values, missing or unknown algorithm and
   digest identifiers, nested or repeated encrypted keys, and keys of the wrong type or size.  An
   RSA-wrapped key whose embedded certificate does not match the supplied private key is rejected,
   and for AES-GCM any modification of the cipher value is rejected."
-/
import SamlVerif.Proofs.Xmlenc

namespace SamlVerif.Xmlenc

/-- **Totality**: for every element (any nesting depth of encrypted keys, any combination of
    missing/unknown identifiers, any cipher value of any length) and every key of every admitted
    type, `Decrypt` returns plaintext or an error — never a panic. -/
theorem C11_total (env : Env) (key : Key) (ls : List Layer) (w : String) :
    decrypt env key ls ≠ .panic w := by
  revert w
  -- Along the definition: every `.panic` leaf re-raises a call that never panics, except the one
  -- (`case6`) that re-raises the nested `EncryptedKey`'s panic, which the induction hypothesis excludes.
  fun_induction decrypt env key ls with
  | case6 _ inner => cases inner <;> simp_all +zetaDelta
  | _ => simp_all

/-- Non-block-aligned, truncated and empty CBC cipher values are errors. -/
theorem C11_cbc_malformed (c : Block) (ct : Bytes) (h : ct.length < c.bs ∨ ct.length % c.bs ≠ 0) :
    ∃ e, cbcDecrypt c ct = .err e := by
  fun_cases cbcDecrypt c ct with
  | case1 | case2 => exact ⟨_, rfl⟩
  | case3 h1 h2 => exact (h.elim h1 h2).elim

/-- Padding must be at least one byte and at most the buffer. -/
theorem C11_min_padding (buf p : Bytes) (h : stripPadding buf = .ok p) : p.length < buf.length :=
  stripPadding_length_lt buf p h

/-- An RSA-wrapped key whose embedded certificate does not match the supplied key is rejected. -/
theorem C11_cert_mismatch (env : Env) (s : RsaScheme) (id : Nat) (l : Layer) (h : l.certOK = some false) :
    rsaDecrypt env s (.rsa id) l = .err "cert-mismatch" := by
  simp [rsaDecrypt, h]

theorem C11_rsa_key_type (env : Env) (s : RsaScheme) (key : Key) (l : Layer) (h : ∀ id, key ≠ .rsa id) :
    rsaDecrypt env s key l = .err "key-type" := by
  cases key <;> simp_all [rsaDecrypt]

/-- Missing or unknown algorithm identifiers are errors. -/
theorem C11_unknown_alg (env : Env) (key : Key) (l : Layer) (inner : List Layer)
    (h : l.alg = none ∨ ∃ a, l.alg = some a ∧ env.lookup a = none) :
    ∃ e, decrypt env key (l :: inner) = .err e := by
  unfold decrypt
  rcases h with h | ⟨a, h1, h2⟩
  · exact ⟨"no-encryptionmethod", by simp [h]⟩
  · exact ⟨"alg-unknown", by simp [h1, h2]⟩

theorem C11_unknown_digest (env : Env) (s : RsaScheme) (id : Nat) (l : Layer) (d : String) (ct : Bytes)
    (hc : l.certOK ≠ some false) (hct : l.cipher = .bytes ct) (hd : l.digest = some d)
    (hn : env.digests.contains d = false) :
    rsaDecrypt env s (.rsa id) l = .err "digest-unknown" := by
  simp_all [rsaDecrypt, getCiphertext]

/-- For AES-GCM any modification of the cipher value is rejected: whatever decrypts to `p` is
    exactly `nonce ‖ seal nonce p` (authenticity of the AEAD is the hypothesis `Aead.Good.auth`). -/
theorem C11_gcm_tamper (a : Aead) (ha : a.Good) (ct ct' p : Bytes)
    (h : gcmDecrypt a ct = .ok p) (hsame : ct'.take a.nonceSize = ct.take a.nonceSize) (hne : ct' ≠ ct) :
    gcmDecrypt a ct' ≠ .ok p := by
  intro h'
  have e1 := eq_gcmEncryptSpec_of_gcmDecrypt a ha ct p h
  have e2 := eq_gcmEncryptSpec_of_gcmDecrypt a ha ct' p h'
  rw [hsame] at e2
  exact hne (e2.trans e1.symm)

/-! The pinned tree did panic: witnesses on the toy cipher (tests of the `…Pinned` definitions). -/
example : cbcDecryptPinned (toyBlock [1, 2, 3] 16) (List.replicate 17 0) =
    .panic "crypto/cipher: input not full blocks" := rfl
example : cbcDecryptPinned (toyBlock [1, 2, 3] 8) (List.replicate 16 0) =
    .panic "cipher.NewCBCDecrypter: IV length must equal block size" := rfl
example : ∃ e, cbcDecrypt (toyBlock [1, 2, 3] 16) (List.replicate 17 0) = .err e :=
  C11_cbc_malformed _ _ (Or.inr (by decide))

end SamlVerif.Xmlenc
