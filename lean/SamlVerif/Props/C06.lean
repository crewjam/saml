/-
  C06 — every response the IdP emits is scoped to one SP, one request and one moment.

  `IdPOut.serveSSO` / `serveInit` are the flows of `ServeSSO` / `ServeIDPInitiated` (validation and
  routing from the C05 model, then `MakeAssertion`, `MakeAssertionEl`, `MakeResponse`,
  `PostBinding`).  The theorems below hold for every registry, request, session, configuration and
  clock reading.  Signature bytes are outside this model; the harness verifies both signatures of
  every emitted response under the IdP certificate (trusted base, see DESIGN).
-/
import SamlVerif.Proofs.IdP
import SamlVerif.Props.C05
import SamlVerif.Generated.Facts

namespace SamlVerif.IdPOut
open SamlVerif.IdP

def bearer : String := "urn:oasis:names:tc:SAML:2.0:cm:bearer"

/-- what "scoped to SP `md`, endpoint `e`, request `q`" means for an emitted response -/
structure Scoped (cfg : IdpCfg) (md : EntityDesc) (e : Endpoint) (q : Request) (reqNow : Int)
    (r : ResponseOut) : Prop where
  post : e.binding = postBinding
  url : r.url = e.location
  destination : r.destination = e.location
  recipient : r.assertion.confirmations = [⟨bearer, q.id, e.location, reqNow + cfg.delay⟩]
  audience : r.assertion.audiences = [md.entityID]
  spQualifier : r.assertion.spNameQualifier = md.entityID
  inResponseTo : r.inResponseTo = q.id
  issuer : r.issuer = cfg.entityID
  assertionIssuer : r.assertion.issuer = cfg.entityID
  status : r.status = "urn:oasis:names:tc:SAML:2.0:status:Success"
  issueInstant : r.issueInstant = reqNow

theorem produce_scoped {cfg usable ρ req s reqNow now r} (h : produce cfg usable ρ req s reqNow now = .ok r) :
    Scoped cfg ρ.md ρ.acs req reqNow r := by
  obtain ⟨enc, _, hr⟩ := produce_eq_ok.mp h
  obtain ⟨hb, rfl⟩ := respond_eq_ok.mp hr
  exact ⟨hb, rfl, rfl, rfl, rfl, rfl, rfl, rfl, rfl, rfl, rfl⟩

/-- **C06 (SP-initiated)**: an emitted response answers a request that passed validation, targets
    an HTTP-POST endpoint registered for the request's issuer, and every scoping field is that
    endpoint's location, that SP's entity ID, the request's ID and the IdP's entity ID. -/
theorem C06_scope_sso (vcfg : Cfg) (cfg : IdpCfg) (usable : String → Bool) (registry : String → Lookup)
    (areq : AuthnRequestS) (s : Session) (reqNow now : Int) (r : ResponseOut)
    (h : serveSSO vcfg cfg usable registry areq s reqNow now = .ok r) :
    ∃ iss md d e, areq.issuer = some iss ∧ registry iss = .found md ∧ d ∈ md.spsso ∧ e ∈ d.acs ∧
      selectACS md areq = some (d, e) ∧
      Scoped cfg md e ⟨areq.id, areq.issueInstant⟩ reqNow r := by
  rw [serveSSO_eq, Outcome.bind_eq_ok] at h
  obtain ⟨ρ, hv, hp⟩ := h
  obtain ⟨_, _, _, iss, hi, hreg, hs⟩ := validate_eq_ok.mp hv
  obtain ⟨hd, he⟩ := mem_allEndpoints.mp (selectACS_sound hs).1
  exact ⟨iss, ρ.md, ρ.desc, ρ.acs, hi, hreg, hd, he, hs, produce_scoped hp⟩

/-- **C06 (IdP-initiated)**: same scoping against the named SP's first HTTP-POST endpoint, and
    `InResponseTo` is absent (empty) at both levels. -/
theorem C06_scope_init (cfg : IdpCfg) (usable : String → Bool) (registry : String → Lookup) (spID : String)
    (s : Session) (reqNow now : Int) (r : ResponseOut)
    (h : serveInit cfg usable registry spID s reqNow now = .ok r) :
    ∃ md d e, registry spID = .found md ∧ d ∈ md.spsso ∧ e ∈ d.acs ∧
      Scoped cfg md e ⟨"", zeroTime⟩ reqNow r ∧ r.inResponseTo = "" ∧
      r.assertion.confirmations.map (·.inResponseTo) = [""] := by
  revert h
  fun_cases serveInit cfg usable registry spID s reqNow now
  case case4 md hreg d e hsel =>
    intro h
    obtain ⟨hd, he, _⟩ := C05_idp_initiated _ _ hsel
    have hs := produce_scoped h
    exact ⟨md, d, e, hreg, hd, he, hs, hs.inResponseTo, by rw [hs.recipient]; rfl⟩
  all_goals nofun

/-- **C06 (moment)**: the Conditions window opens no earlier than `MaxClockSkew` before the request
    was received and never later than `max (reqNow − skew) IssueInstant`; it stays open exactly
    `MaxIssueDelay` past the later of (receipt, request IssueInstant); the bearer confirmation expires
    `MaxIssueDelay` after receipt; the assertion is stamped with the clock at issuance. -/
theorem C06_window (cfg : IdpCfg) (sp loc : String) (ras : List ReqAttr) (q : Request) (s : Session)
    (reqNow now : Int) :
    let a := makeAssertion cfg sp loc ras q s reqNow now
    reqNow - cfg.skew ≤ a.notBefore ∧
    (a.notBefore = reqNow - cfg.skew ∨ a.notBefore = q.issueInstant) ∧
    a.notBefore = max (reqNow - cfg.skew) q.issueInstant ∧
    (a.notOnOrAfter = reqNow + cfg.delay ∨ a.notOnOrAfter = q.issueInstant + cfg.delay) ∧
    (0 ≤ cfg.skew → a.notOnOrAfter = max reqNow q.issueInstant + cfg.delay ∨
        (reqNow - cfg.skew < q.issueInstant ∧ q.issueInstant ≤ reqNow)) ∧
    a.confirmations.map (·.notOnOrAfter) = [reqNow + cfg.delay] ∧
    a.issueInstant = now := by
  simp only [makeAssertion, List.map_cons, List.map_nil, and_true]
  split <;> omega

theorem C06_window_nonempty (cfg : IdpCfg) (sp loc ras q s reqNow now) (hd : 0 < cfg.delay) (hs : 0 ≤ cfg.skew) :
    (makeAssertion cfg sp loc ras q s reqNow now).notBefore <
    (makeAssertion cfg sp loc ras q s reqNow now).notOnOrAfter := by
  simp only [makeAssertion]
  split <;> omega

/-! ### provenance of the identity -/

theorem requestedValue_mem {s : Session} {n v : String} (h : requestedValue s n = some v) : v ∈ sessionStrings s := by
  revert h
  fun_cases requestedValue s n <;> rintro ⟨⟩ <;>
    simp only [sessionStrings, List.mem_append, List.mem_cons, true_or, or_true]

theorem requestedAttrs_values (s : Session) (ras : List ReqAttr) :
    ∀ a ∈ requestedAttrs s ras, ∀ v ∈ a.values, v ∈ sessionStrings s := by
  intro a ha v hv
  simp only [requestedAttrs, List.mem_filterMap] at ha
  obtain ⟨ra, _, h⟩ := ha
  split at h
  · obtain ⟨w, hw, rfl⟩ := Option.map_eq_some_iff.mp h
    cases List.mem_singleton.mp hv
    exact requestedValue_mem hw
  · cases h

theorem forall_mem_optAttr {c : Bool} {a : AttrS} {P : AttrS → Prop} :
    (∀ x ∈ optAttr c a, P x) ↔ (c = true → P a) := by
  cases c <;> simp [optAttr]

theorem standardAttrs_values (s : Session) : ∀ a ∈ standardAttrs s, ∀ v ∈ a.values, v ∈ sessionStrings s := by
  simp only [standardAttrs, List.forall_mem_append, forall_mem_optAttr,
    List.forall_mem_singleton (p := (· ∈ sessionStrings s))]
  -- ten conjuncts; all but the custom attributes, the groups and the `if` of eduPersonPrincipalName name a member outright
  simp only [sessionStrings, List.mem_append, List.mem_cons, List.mem_flatMap, true_or, or_true, implies_true,
    true_and, and_true]
  refine ⟨⟨fun _ => ?_, fun a ha v hv => .inr ⟨a, ha, hv⟩⟩, fun _ v hv => .inl (.inr hv)⟩
  split <;> simp only [true_or, or_true]

/-- **C06 (identity)**: the name identifier is the session's, the attribute statement is a function
    of the session and the SP's requested attributes alone, every attribute value in it is a string
    of the session, and the session index is the session's. -/
theorem C06_identity (cfg : IdpCfg) (sp loc : String) (ras : List ReqAttr) (q : Request) (s : Session)
    (reqNow now : Int) :
    let a := makeAssertion cfg sp loc ras q s reqNow now
    a.nameID = s.nameID ∧ a.sessionIndex = s.index ∧ a.nameQualifier = cfg.entityID ∧
    a.attrs = requestedAttrs s ras ++ standardAttrs s ∧
    ∀ x ∈ a.attrs, ∀ v ∈ x.values, v ∈ sessionStrings s :=
  ⟨rfl, rfl, rfl, rfl, List.forall_mem_append.mpr ⟨requestedAttrs_values s ras, standardAttrs_values s⟩⟩

/-- two users' responses to the same request differ in nothing but identity: all scoping fields of
    `makeAssertion` are independent of the session -/
theorem C06_session_independent (cfg : IdpCfg) (sp loc ras q) (s s' : Session) (reqNow now : Int) :
    let a := makeAssertion cfg sp loc ras q s reqNow now
    let a' := makeAssertion cfg sp loc ras q s' reqNow now
    a.confirmations = a'.confirmations ∧ a.audiences = a'.audiences ∧ a.issuer = a'.issuer ∧
    a.notBefore = a'.notBefore ∧ a.notOnOrAfter = a'.notOnOrAfter := ⟨rfl, rfl, rfl, rfl, rfl⟩

/-- **C06 (POST only)**: a response is never produced for an endpoint whose binding is not HTTP-POST -/
theorem C06_post_only (cfg md acs ras req s reqNow now enc) (h : acs.binding ≠ postBinding) :
    respond cfg md acs ras req s reqNow now enc = .err "unsupported-binding" := by
  simp [respond, h]

/-- totality: the producer never panics -/
theorem C06_total (vcfg cfg usable registry areq s reqNow now w) :
    serveSSO vcfg cfg usable registry areq s reqNow now ≠ .panic w := by
  rw [serveSSO_eq]
  exact Outcome.bind_ne_panic (C05_total _ _ _ _) (fun ρ => produce_ne_panic _ _ ρ _ _ _ _) w

/-! ### obligations on the regenerated facts: where each emitted field comes from in the source -/

/-- the data flow of `MakeAssertion` / `MakeResponse` as written in identity_provider.go today -/
def expectedFieldSources : List (String × String) :=
  [ ("Assertion.Issuer.Value", "req.IDP.Metadata().EntityID"),
    ("Assertion.Subject.NameID.NameQualifier", "req.IDP.Metadata().EntityID"),
    ("Assertion.Subject.NameID.SPNameQualifier", "req.ServiceProviderMetadata.EntityID"),
    ("Assertion.Subject.NameID.Value", "session.NameID"),
    ("Assertion.Subject.SubjectConfirmations[0].Method", "\"urn:oasis:names:tc:SAML:2.0:cm:bearer\""),
    ("Assertion.Subject.SubjectConfirmations[0].SubjectConfirmationData.InResponseTo", "req.Request.ID"),
    ("Assertion.Subject.SubjectConfirmations[0].SubjectConfirmationData.NotOnOrAfter", "req.Now.Add(MaxIssueDelay)"),
    ("Assertion.Subject.SubjectConfirmations[0].SubjectConfirmationData.Recipient", "req.ACSEndpoint.Location"),
    ("Assertion.Conditions.NotBefore", "notBefore"),
    ("Assertion.Conditions.NotOnOrAfter", "notOnOrAfterAfter"),
    ("Assertion.Conditions.AudienceRestrictions[0].Audience.Value", "req.ServiceProviderMetadata.EntityID"),
    ("Assertion.AuthnStatements[0].SessionIndex", "session.Index"),
    ("Assertion.AttributeStatements[0].Attributes", "attributes"),
    ("Assertion.IssueInstant", "TimeNow()"),
    ("Response.Destination", "req.ACSEndpoint.Location"),
    ("Response.InResponseTo", "req.Request.ID"),
    ("Response.IssueInstant", "req.Now"),
    ("Response.Issuer.Value", "req.IDP.MetadataURL.String()"),
    ("Response.Status.StatusCode.Value", "StatusSuccess"),
    ("Form.URL", "req.ACSEndpoint.Location") ]

/-- every scoping field of the model is read from the same source expression in the code -/
theorem C06_field_sources :
    expectedFieldSources.all (fun p => Facts.idpFieldSources.lookup p.1 = some p.2) = true := by decide +kernel

/-- the single-element shapes the model assumes: one confirmation, one audience restriction, one
    authn statement, one attribute statement -/
theorem C06_shapes : Facts.idpListLengths =
    [("Assertion.Subject.SubjectConfirmations", 1), ("Assertion.Conditions.AudienceRestrictions", 1),
     ("Assertion.AuthnStatements", 1), ("Assertion.AttributeStatements", 1)] := rfl

/-- both `SignEnveloped` calls (assertion, response) obtain their context from `signingContext` -/
theorem C06_signing_sites : Facts.idpSignEnvelopedSites = ["MakeAssertionEl:signingContext", "MakeResponse:signingContext"] :=
  rfl

theorem C06_extraction_clean : Facts.extractionFailures = [] := rfl

def exSession : Session :=
  { nameID := "alice", nameIDFormat := "", index := "i1", subjectID := "", groups := ["g"], userName := "alice",
    userEmail := "a@x", userCommonName := "", userSurname := "", userGivenName := "", userScopedAffiliation := "",
    eduPersonPrincipalName := "", custom := [] }

def exMd : EntityDesc :=
  ⟨"sp", [{ acs := [⟨redirectBinding, "https://sp/r", 1, none⟩, ⟨postBinding, "https://sp/acs", 2, none⟩],
            keys := [] }]⟩

example : (serveSSO ⟨"https://idp/sso", 90000⟩ ⟨"https://idp/md", 90000, 180000⟩ (fun _ => false)
    (fun i => if i = "sp" then .found exMd else .notExist)
    ⟨"id1", some "sp", "", "2.0", 0, "https://sp/acs", ""⟩ exSession 50000 50001).isOk = true := by decide +kernel

example : (serveSSO ⟨"https://idp/sso", 90000⟩ ⟨"https://idp/md", 90000, 180000⟩ (fun _ => false)
    (fun i => if i = "sp" then .found exMd else .notExist)
    ⟨"id1", some "sp", "", "2.0", 0, "", ""⟩ exSession 50000 50001) = .err "unsupported-binding" := by decide +kernel

example : (serveInit ⟨"https://idp/md", 90000, 180000⟩ (fun _ => false)
    (fun i => if i = "sp" then .found exMd else .notExist) "sp" exSession 50000 50001).isOk = true := by decide +kernel

end SamlVerif.IdPOut
