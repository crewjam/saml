/-
  C14 — Peer-controlled strings cannot alter emitted HTML forms or smuggle script URLs.

  "No caller- or peer-controlled string - relay state, destination and ACS locations, encoded
   messages, login-form toast - can change the structure of the HTML auto-submit forms the library
   emits: each form has exactly the intended action and hidden fields, with those strings as inert
   attribute values.  Endpoint locations obtained by parsing metadata XML are, for the standard
   bindings, http or https URLs or else parsing fails, and for unknown bindings are blanked, so
   script-bearing URL schemes from metadata never reach a form action or redirect."

  The escapers' output can neither close the quoted attribute value / text run it sits in nor open a tag,
  and decodes back to the input (`C14_attr_inert`, `C14_attr_decodes`, `C14_attr_scan`, `C14_text_scan`).
  Partial: the full WHATWG tokenizer is not modelled — the argument is carried for the states the
  templates use (double-quoted attribute value: ends at the next `"`; data state after a tag: ends at
  the next `<`); that x/net/html reads the real output the same way is checked by the harness.
-/
import SamlVerif.Proofs.HtmlForm
import SamlVerif.Generated.Facts

namespace SamlVerif.Html

/-- escaped values contain no `"`, `<`, `>`, `'`, NUL or `+` — for every string -/
theorem C14_attr_inert (s : Bytes) (c : UInt8) (hc : c ∈ htmlEscape s) :
    c.toNat ≠ 34 ∧ c.toNat ≠ 60 ∧ c.toNat ≠ 62 ∧ c.toNat ≠ 39 ∧ c.toNat ≠ 0 ∧ c.toNat ≠ 43 :=
  htmlEscape_inert s c hc

/-- the value a browser decodes from the attribute is the original string (NUL → U+FFFD) -/
theorem C14_attr_decodes (s : Bytes) : htmlUnescape (htmlEscape s) = nulToFFFD s :=
  htmlUnescape_htmlEscape s

/-- the double-quoted attribute value ends at the template's own closing quote, whatever the value -/
theorem C14_attr_scan (s rest : Bytes) :
    (htmlEscape s ++ 34 :: rest).takeWhile (fun c => c.toNat ≠ 34) = htmlEscape s ∧
    (htmlEscape s ++ 34 :: rest).dropWhile (fun c => c.toNat ≠ 34) = 34 :: rest :=
  takeWhile_dropWhile_append_cons _ _ _ _ (fun c hc => by simpa using (htmlEscape_inert s c hc).1) (by decide)

/-- interpolated text ends at the template's own next tag, whatever the value -/
theorem C14_text_scan (s rest : Bytes) :
    (htmlEscape s ++ 60 :: rest).takeWhile (fun c => c.toNat ≠ 60) = htmlEscape s ∧
    (htmlEscape s ++ 60 :: rest).dropWhile (fun c => c.toNat ≠ 60) = 60 :: rest :=
  takeWhile_dropWhile_append_cons _ _ _ _ (fun c hc => by simpa using (htmlEscape_inert s c hc).2.1) (by decide)

/-- form actions: the value the browser reads is the normalised input URL, or `#ZgotmplZ` -/
theorem C14_action_value (s : Bytes) :
    htmlUnescape (urlAttrEscape s) = urlNormalize s ∨ htmlUnescape (urlAttrEscape s) = urlNormalize failsafe := by
  rw [action_value, urlFilter]
  split
  · exact Or.inl rfl
  · exact Or.inr rfl

/-- … and never carries a scheme other than http, https or mailto -/
theorem C14_action_scheme (s proto : Bytes) (h : beforeColon (urlFilter s) = some proto)
    (hns : proto.any (fun b => b.toNat = 47) = false) :
    lower proto = http ∨ lower proto = https ∨ lower proto = mailto := by
  have hs := urlFilter_safe s
  unfold isSafeURL at hs
  rw [h] at hs
  simpa [hns, or_assoc] using hs

/-- the escaped action is inert as an attribute value too -/
theorem C14_action_inert (s : Bytes) (c : UInt8) (hc : c ∈ urlAttrEscape s) :
    c.toNat ≠ 34 ∧ c.toNat ≠ 60 ∧ c.toNat ≠ 62 ∧ c.toNat ≠ 39 ∧ c.toNat ≠ 0 ∧ c.toNat ≠ 43 :=
  htmlEscape_inert _ c hc

/-! ### the forms as a whole: "each form has exactly the intended action and hidden fields" -/

/-- **Quote structure.** Cut the rendered document at every `"` (which is how a tokenizer inside a tag
    finds the end of a double-quoted attribute value): for *every* data the pieces are the template's
    own skeleton with each hole filled by the escaped value.  No value adds, removes or moves a quote. -/
theorem C14_quote_structure (t : Bytes) (data : Bytes → Bytes) (hk : holesKnown (skel (parseTemplate t)) = true) :
    pieces (render t data) = (skelT (parseTemplate t)).map (fill data) :=
  pieces_render_tidy data (parseTemplate t) hk

/-- … so two renderings of one template differ in no static piece and have the same number of pieces -/
theorem C14_structure_independent_of_data (t : Bytes) (d1 d2 : Bytes → Bytes) (hk : holesKnown (skel (parseTemplate t)) = true) :
    (pieces (render t d1)).length = (pieces (render t d2)).length := by
  simp [C14_quote_structure, hk]

/-- `C14_form_skeletons`, `C14_holes_known` and `C14_templates_ok` under one evaluation: parsing the templates is
    the bulk of each -/
theorem templates_obligations :
    Facts.templates.map (fun t => (t.1, skelT (parseTemplate t.2.2))) =
      [("identity_provider.go", idpResponseForm), ("service_provider.go", spRequestForm), ("service_provider.go", spRequestForm),
       ("service_provider.go", spResponseForm), ("samlidp/session.go", idpLoginForm)] ∧
    ∀ t ∈ Facts.templates, holesKnown (skel (parseTemplate t.2.2)) = true ∧ templateOK t.2.1 t.2.2 = true := by
  unfold idpResponseForm spRequestForm spResponseForm idpLoginForm S H B
  -- the kernel decodes a string literal in time quadratic in its length; `toList_ofList` hands it the characters
  rewrite [String.toList_append]
  repeat rewrite [String.toList_ofList]
  decide +kernel

/-- **Obligation at the regenerated templates**: every template of the current source has exactly this
    skeleton — the intended action and hidden fields, each interpolated string alone between its own
    pair of quotes (the toast: between its own pair of tags) — and every hole has a known escaper. -/
theorem C14_form_skeletons :
    Facts.templates.map (fun t => (t.1, skelT (parseTemplate t.2.2))) =
      [("identity_provider.go", idpResponseForm), ("service_provider.go", spRequestForm), ("service_provider.go", spRequestForm),
       ("service_provider.go", spResponseForm), ("samlidp/session.go", idpLoginForm)] :=
  templates_obligations.1

theorem C14_holes_known : ∀ t ∈ Facts.templates, holesKnown (skel (parseTemplate t.2.2)) = true :=
  fun t ht => (templates_obligations.2 t ht).1

/-- what that means for one field, spelled out: in every rendering of the SP's request form the
    twelfth piece — the quoted string after ` name="SAMLRequest" value=` — is the escaped message and
    the eighteenth the escaped relay state, whatever either contains -/
theorem C14_sp_request_fields (t : Bytes) (ht : skelT (parseTemplate t) = spRequestForm)
    (hk : holesKnown (skel (parseTemplate t)) = true) (data : Bytes → Bytes) :
    (pieces (render t data))[3]? = some (urlAttrEscape (data (B "URL"))) ∧
    (pieces (render t data))[11]? = some (htmlEscape (data (B "SAMLRequest"))) ∧
    (pieces (render t data))[17]? = some (htmlEscape (data (B "RelayState"))) ∧
    (pieces (render t data)).length = 27 := by
  have hole := pieces_render_hole data (parseTemplate t) hk
  rw [ht] at hole
  refine ⟨hole 3 .urlAttr _ rfl, hole 11 .attr _ rfl, hole 17 .attr _ rfl, ?_⟩
  rw [C14_quote_structure t data hk, ht]
  rfl

/-! ### obligations at the regenerated facts: contexts, template data -/

/-- Every template in the current source is parsed by `html/template`, and each of its actions sits
    inside a double-quoted attribute value (closed by the template's own quote) or in text directly
    between two tags. -/
theorem C14_templates_ok : ∀ t ∈ Facts.templates, templateOK t.2.1 t.2.2 = true :=
  fun t ht => (templates_obligations.2 t ht).2

theorem C14_templates_found : Facts.templates.length ≥ 5 := by decide

theorem C14_facts_extracted : Facts.extractionFailures = [] := rfl

/-- With `text/template` the forms are not safe: a relay state closes the attribute and opens a tag.
    (Shows that `C14_templates_ok` is sensitive to the import fact.) -/
theorem C14_text_template_counterexample :
    let t : Bytes := [60, 105, 32, 118, 61, 34, 123, 123, 46, 82, 125, 125, 34, 62]   -- <i v="{{.R}}">
    let evil : Bytes := [34, 62, 60, 115, 62]                                          -- "><s>
    (renderTextTemplate t (fun _ => evil)).takeWhile (fun c => c.toNat ≠ 34) ≠
      [60, 105, 32, 118, 61] ++ evil ∧
    templateOK "text/template" t = false := by decide +kernel

def hasInfix (pat : List Char) : List Char → Bool
  | [] => pat.isEmpty
  | c :: cs => pat.isPrefixOf (c :: cs) || hasInfix pat cs

/-- every value handed to a template execution is a plain `string` field filled from a plain expression: no field has one
    of the html/template types that bypass contextual escaping, and nothing is converted to one -/
theorem C14_template_data_plain :
    Facts.templateData.all (fun r => r.2.2.1 = "string" && !hasInfix "template.".toList r.2.2.2.toList) = true ∧
    Facts.templateData.length = 16 := by
  -- as in `templates_obligations`: hand the kernel the characters of each string literal
  unfold Facts.templateData
  simp only [List.all_cons, List.all_nil]
  repeat rewrite [String.toList_ofList]
  decide +kernel

/-! ### metadata locations -/

/-- **Metadata locations**: for a standard binding an accepted location is returned unchanged and
    has scheme http or https (any case); for an unknown binding it is blanked. -/
theorem C14_location (binding : String) (loc loc' : Bytes) (h : checkEndpointLocation binding loc = .ok loc') :
    (knownBindings.contains binding = true →
      loc' = loc ∧ hasCTL (cutFragment loc) = false ∧
      ∃ scheme rest, getScheme (cutFragment loc) = some (scheme, rest) ∧ (lower scheme = http ∨ lower scheme = https)) ∧
    (knownBindings.contains binding = false → loc' = []) := by
  revert h
  fun_cases checkEndpointLocation binding loc
  -- the error leaves go; the two others state their branch conditions
  all_goals
    intro h
    cases h
  all_goals simp_all

/-- a location that survives `checkEndpointLocation` is empty or has an http(s) scheme -/
def SafeLoc (l : Bytes) : Prop :=
  l = [] ∨ ∃ scheme rest, getScheme (cutFragment l) = some (scheme, rest) ∧ (lower scheme = http ∨ lower scheme = https)

theorem check_safe (binding : String) (loc loc' : Bytes) (h : checkEndpointLocation binding loc = .ok loc') : SafeLoc loc' := by
  have hh := C14_location binding loc loc' h
  cases hk : knownBindings.contains binding
  · exact .inl (hh.2 hk)
  · obtain ⟨rfl, -, hs⟩ := hh.1 hk
    exact .inr hs

/-- **Both attributes of both endpoint types**: whatever `Endpoint.UnmarshalXML` /
    `IndexedEndpoint.UnmarshalXML` leave in Location and ResponseLocation is empty or http(s). -/
theorem C14_endpoint_attrs (binding : String) (loc resp loc' resp' : Bytes)
    (h : unmarshalEndpoint binding loc resp = .ok (loc', resp')) : SafeLoc loc' ∧ SafeLoc resp' := by
  revert h
  fun_cases unmarshalEndpoint binding loc resp
  -- the error leaves go; in the two others `‹_›` is the successful check of the location in question
  all_goals
    intro h
    cases h
  · exact ⟨check_safe _ _ _ ‹_›, .inl rfl⟩
  · exact ⟨check_safe _ _ _ ‹_›, check_safe _ _ _ ‹_›⟩

theorem C14_indexed_endpoint_attrs (binding : String) (loc : Bytes) (resp : Option Bytes) (loc' : Bytes)
    (resp' : Option Bytes) (h : unmarshalIndexedEndpoint binding loc resp = .ok (loc', resp')) :
    SafeLoc loc' ∧ ∀ r, resp' = some r → SafeLoc r := by
  revert h
  fun_cases unmarshalIndexedEndpoint binding loc resp
  all_goals
    intro h
    cases h
  · exact ⟨check_safe _ _ _ ‹_›, nofun⟩
  · refine ⟨check_safe _ _ _ ‹_›, fun r hr => ?_⟩
    -- a blanked ResponseLocation became `none`; otherwise `r` is the checked location
    split at hr
    · cases hr
    · cases hr
      exact check_safe _ _ _ ‹_›

/-- script-bearing schemes are rejected for every standard binding -/
theorem C14_rejects_javascript :
    ∀ b ∈ knownBindings, (checkEndpointLocation b
      [106, 97, 118, 97, 115, 99, 114, 105, 112, 116, 58, 97, 108, 101, 114, 116, 40, 49, 41]).isErr = true := by
  intro b hb
  rw [checkEndpointLocation, if_pos (List.contains_iff_mem.2 hb)]
  decide +kernel

example : checkEndpointLocation "urn:oasis:names:tc:SAML:2.0:bindings:HTTP-POST"
    [72, 84, 84, 80, 115, 58, 47, 47, 120] = .ok [72, 84, 84, 80, 115, 58, 47, 47, 120] := by
  rw [checkEndpointLocation, if_pos (List.contains_iff_mem.2 (show _ ∈ knownBindings from List.mem_cons_self ..))]
  decide
example : htmlEscape [34, 62, 60, 0, 43, 38] ≠ [34, 62, 60, 0, 43, 38] := by decide

end SamlVerif.Html
