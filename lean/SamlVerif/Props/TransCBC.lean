/-
  Props/TransCBC — the framing of CBC decryption (xmlenc/cbc.go `CBC.Decrypt` from the statement `blockSize := block.BlockSize()`
  to the end; `Generated/TransXmlenc.lean`, `TransX.cbcFraming`): the block size of the cipher that was set up just before and
  crypto/cipher's `NewCBCDecrypter(block, iv)` + `CryptBlocks` are unknowns of the range (`env.blockSize`, `env.cbcDecrypt iv src`);
  `stripPadding` is the translated one.

  crypto/cipher panics when the IV is not one block long or the input is not a whole number of blocks.  `CipherContract` says
  that and nothing more.

  * `cbcFraming_rejects`: shorter than a block, or not a multiple of the block size ⇒ an error, whatever the cipher does.
-/
import SamlVerif.Props.TransPad
open SamlVerif.GoSem
namespace SamlVerif.TransPad

/-- a positive block size, and what crypto/cipher guarantees: no panic on a one-block IV and whole blocks of input, and as
    many bytes out as in -/
def CipherContract (env : TransX.Env) : Prop :=
  0 < env.blockSize ∧
  ∀ iv src : List UInt8, (iv.length : Int) = env.blockSize → (src.length : Int) % env.blockSize = 0 →
    ∃ out, env.cbcDecrypt iv src = .ok out ∧ out.length = src.length

theorem cbcFraming_cases (env : TransX.Env) (e : TransX.CBC) (err0 : GoError) (ct : List UInt8) (hc : CipherContract env) :
    (((ct.length : Int) < env.blockSize ∨ (ct.length : Int) % env.blockSize ≠ 0) ∧ ∃ m, TransX.cbcFraming env e err0 ct = .ok ([], some m)) ∨
    (env.blockSize ≤ (ct.length : Int) ∧ (ct.length : Int) % env.blockSize = 0 ∧
      ∃ out, env.cbcDecrypt (ct.take env.blockSize.toNat) (ct.drop env.blockSize.toNat) = .ok out ∧
        TransX.cbcFraming env e err0 ct =
          (match TransX.stripPadding env out with
           | .ok (p, none) => .ok (p, none)
           | .ok (_, some m) => .ok ([], some m)
           | .err x => .err x
           | .panic x => .panic x)) := by
  obtain ⟨hpos, hcipher⟩ := hc
  unfold TransX.cbcFraming
  simp only [Outcome.pure_eq_ok]
  by_cases hshort : (ct.length : Int) < env.blockSize
  · exact .inl ⟨.inl hshort, _, by rw [if_pos hshort]⟩
  · rw [if_neg hshort, goMod_ok (by omega) (by omega)]
    by_cases hal : (ct.length : Int) % env.blockSize = 0
    · -- both slices are in range, and the decrypter is called within its contract
      obtain ⟨out, hout, _⟩ := hcipher (ct.take env.blockSize.toNat) (ct.drop env.blockSize.toNat)
        (by rw [List.length_take]; omega)
        (by rw [List.length_drop, Int.natCast_sub (by omega), Int.toNat_of_nonneg (by omega),
              Int.sub_emod_right, hal])
      refine .inr ⟨by omega, hal, out, hout, ?_⟩
      simp only [hal, bne_self_eq_false, Bool.false_eq_true, if_false, Outcome.ok_bind',
        sliceTo_ok (Int.le_of_lt hpos) (Int.not_lt.mp hshort), sliceFrom_ok (Int.le_of_lt hpos) (Int.not_lt.mp hshort),
        makeSlice_ok (Int.natCast_nonneg _), hout]
      rcases TransX.stripPadding env out with ⟨_, _ | _⟩ | _ | _ <;> rfl
    · exact .inl ⟨.inr hal, "ciphertext is not a multiple of the block size", by simp [hal]⟩

/-- C11: under the contract *no* cipher value makes the CBC framing panic: what the `fix:` commit's two length checks buy -/
theorem cbcFraming_total (env : TransX.Env) (e : TransX.CBC) (err0 : GoError) (ct : List UInt8) (hc : CipherContract env) :
    ∃ p m, TransX.cbcFraming env e err0 ct = .ok (p, m) := by
  rcases cbcFraming_cases env e err0 ct hc with ⟨_, m, h⟩ | ⟨_, _, out, _, h⟩
  · exact ⟨[], some m, h⟩
  · rw [h]
    rcases Trans_stripPadding_total env out with ⟨m, hs⟩ | ⟨p, hs, _⟩
    · exact ⟨[], some m, by simp [hs]⟩
    · exact ⟨p, none, by simp [hs]⟩

/-- C10 / C11: a plaintext is returned only for a value of at least one block and whole blocks, and it is the unpadded
    decryption of everything after the first block under that block as IV -/
theorem cbcFraming_sound (env : TransX.Env) (e : TransX.CBC) (err0 : GoError) (ct p : List UInt8) (hc : CipherContract env)
    (h : TransX.cbcFraming env e err0 ct = .ok (p, none)) :
    env.blockSize ≤ (ct.length : Int) ∧ (ct.length : Int) % env.blockSize = 0 ∧
    ∃ out, env.cbcDecrypt (ct.take env.blockSize.toNat) (ct.drop env.blockSize.toNat) = .ok out ∧
      TransX.stripPadding env out = .ok (p, none) := by
  rcases cbcFraming_cases env e err0 ct hc with ⟨_, m, h'⟩ | ⟨h1, h2, out, hout, h'⟩
  · rw [h] at h'
    cases h'
  · refine ⟨h1, h2, out, hout, ?_⟩
    rw [h] at h'
    split at h' <;> cases h'
    assumption

/-- truncated and non-block-aligned cipher values are errors, whatever the cipher -/
theorem cbcFraming_rejects (env : TransX.Env) (e : TransX.CBC) (err0 : GoError) (ct : List UInt8) (hc : CipherContract env)
    (hbad : (ct.length : Int) < env.blockSize ∨ (ct.length : Int) % env.blockSize ≠ 0) :
    ∃ m, TransX.cbcFraming env e err0 ct = .ok ([], some m) := by
  rcases cbcFraming_cases env e err0 ct hc with ⟨_, m, h⟩ | ⟨h1, h2, _⟩
  · exact ⟨m, h⟩
  · omega

/-! the contract is satisfiable: a "cipher" that returns its input and panics outside the contract's premises, which the
    framing never lets it see (three bytes for an eight-byte block: an error) -/
def exCipherEnv : TransX.Env :=
  { (default : TransX.Env) with blockSize := 8, cbcDecrypt := fun iv src => if iv.length = 8 ∧ src.length % 8 = 0 then .ok src else .panic "crypto/cipher: input not full blocks" }
example : CipherContract exCipherEnv := by
  refine ⟨by decide, fun iv src h1 h2 => ⟨src, ?_, rfl⟩⟩
  have h1 : (iv.length : Int) = 8 := h1
  have h2 : (src.length : Int) % 8 = 0 := h2
  simp [exCipherEnv, show iv.length = 8 by omega, show src.length % 8 = 0 by omega]
example : TransX.cbcFraming exCipherEnv default none [1, 2, 3] = .ok ([], some "ciphertext too short") := rfl
example : TransX.cbcFraming exCipherEnv default none (List.replicate 8 0 ++ [7, 7, 7, 7, 7, 7, 7, 2]) = .ok ([7, 7, 7, 7, 7, 7], none) := by decide

end SamlVerif.TransPad
