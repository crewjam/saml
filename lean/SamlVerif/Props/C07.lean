/-
  C07 — the IdP-to-SP round trip preserves the authenticated identity exactly.

  Three layers: characters, structure, and registration: the metadata the SP publishes routes the SP's
  own requests to its HTTP-POST endpoint and advertises its certificate for encryption
  (`C07_published_metadata_*`), so that the whole flow SP request → IdP → SP goes through (`C07_end_to_end`).
-/
import SamlVerif.Model.IdPOut
import SamlVerif.Proofs.SPStruct
import SamlVerif.Proofs.XmlText
import SamlVerif.Props.C06
import SamlVerif.Generated.Facts

namespace SamlVerif.IdPOut
open SamlVerif.IdP SamlVerif.XmlText

/-! ### 1. characters -/

/-- every string of XML characters, written as character data in the canonical text mode, is read back
    exactly, whatever follows -/
theorem C07_text_roundtrip (s rest : List Char) (hs : ∀ c ∈ s, inRange c = true) :
    readText (escape .canonText s ++ '<' :: rest) = .ok (s, '<' :: rest) :=
  text_roundtrip .canonText s (fun c hc => ⟨hs c hc, nofun, nofun⟩) rest

/-- **attribute values**: the library writes them in etree's normal mode and then replaces every raw
    carriage return by `&#xD;` (`crEscaper`); every string of XML characters is read back exactly -/
theorem C07_attr_roundtrip (s rest : List Char) (hs : ∀ c ∈ s, inRange c = true) :
    readAttr (crReplace (escape .normal s) ++ '"' :: rest) = .ok (s, rest) := by
  rw [crReplace_escape_normal]
  exact attr_roundtrip .attrCR nofun s (fun c hc => ⟨hs c hc, nofun, nofun⟩) rest

/-- the text writer leaves no raw carriage return for `crEscaper` to touch: character data is
    unaffected by it -/
theorem C07_text_unaffected_by_cr_escaper (s : List Char) : crReplace (escape .canonText s) = escape .canonText s :=
  crReplace_of_not_mem _ fun h =>
    have ⟨c, _, hc⟩ := List.mem_flatMap.1 h
    nomatch (cr_mem_escChar _ c hc).2

/-- etree's normal mode alone: exact only for strings without a carriage return —
    `C07_attr_cr_counterexample` -/
theorem C07_attr_roundtrip_partial (s rest : List Char) (hs : ∀ c ∈ s, inRange c = true) (hcr : '\r' ∉ s) :
    readAttr (escape .normal s ++ '"' :: rest) = .ok (s, rest) :=
  attr_roundtrip .normal nofun s (fun c hc => ⟨hs c hc, fun h _ => hcr (h ▸ hc), nofun⟩) rest

/-- the reason the text mode matters: in etree's normal mode a carriage return comes back as LF -/
theorem C07_cr_counterexample :
    readText (escape .normal ['a', '\r', 'b'] ++ ['<']) = .ok (['a', '\n', 'b'], ['<']) := by decide +kernel

theorem C07_attr_cr_counterexample :
    readAttr (escape .normal ['a', '\r', 'b'] ++ ['"']) = .ok (['a', '\n', 'b'], []) := by decide +kernel

/-- the reason attribute values are *not* written in the canonical attribute mode: `]]>` is left raw
    and the reader refuses it -/
theorem C07_canon_attr_counterexample :
    readAttr (escape .canonAttr [']', ']', '>'] ++ ['"']) = .err "cdata-end-in-text" := by decide +kernel

/-- in the canonical attribute mode everything but `>` round-trips (CR, LF, TAB included) -/
theorem C07_canon_attr_roundtrip (s rest : List Char) (hs : ∀ c ∈ s, inRange c = true) (hgt : '>' ∉ s) :
    readAttr (escape .canonAttr s ++ '"' :: rest) = .ok (s, rest) :=
  attr_roundtrip .canonAttr nofun s (fun c hc => ⟨hs c hc, nofun, fun h _ => hgt (h ▸ hc)⟩) rest

/-- the writer never emits markup for data: no `<` and no unescaped `&`-less quote in an attribute -/
theorem C07_no_markup (m : Mode) (s : List Char) : '<' ∉ escape m s := fun h =>
  have ⟨c, _, hc⟩ := List.mem_flatMap.1 h
  lt_not_mem_escChar m c hc

/-- `xmlWriteSettings` in the current source: `CanonicalText` on, `CanonicalAttrVal` off — the modes of
    `C07_text_roundtrip` and `C07_attr_roundtrip` -/
theorem C07_writer_mode : Facts.xmlWriteSettingsCanonical = (true, false) := rfl
/-- every serialisation site goes through the package's writer, never through etree's `WriteTo*` directly -/
theorem C07_every_site_uses_it : Facts.xmlWriteSites.all (·.2) = true ∧ Facts.xmlWriteSites.length = 11 := by decide
/-- the package's writer installs the write settings and wraps the destination in `crEscaper`, which
    replaces carriage returns by `&#xD;` (the `crReplace` of the model) -/
theorem C07_package_writer :
    Facts.writeXMLBody = ["doc.WriteSettings = xmlWriteSettings", "_, err := doc.WriteTo(crEscaper{w})", "return err"] ∧
    Facts.crEscaperReplace = ["bytes.ReplaceAll(p, []byte{'\\r'}, []byte(\"&#xD;\"))"] := ⟨rfl, rfl⟩
theorem C07_extraction_clean : Facts.extractionFailures = [] := rfl

/-! ### 2. structure -/

/-- the SP is configured from this IdP's metadata and is the SP the response was made for -/
structure ConfigMatch (icfg : IdpCfg) (md : EntityDesc) (e : Endpoint) (sp : SP.Cfg) : Prop where
  idp : sp.idpEntityID = icfg.entityID
  acs : sp.acsURL = e.location
  aud : sp.audience = md.entityID
  noReqIdOverride : sp.reqIdValidator = none
  noAudOverride : sp.audValidator = none
  status : sp.statusSuccess = success
  delay : sp.delay = icfg.delay
  skew : sp.skew = icfg.skew
  skewNonneg : 0 ≤ icfg.skew

/-- the clocks: receipt ≤ issuance ≤ consumption ≤ receipt + MaxIssueDelay, and the request's own
    IssueInstant is not ahead of the consumer's clock by more than the skew -/
structure Timely (icfg : IdpCfg) (q : Request) (reqNow now t : Int) : Prop where
  mono : reqNow ≤ now
  later : now ≤ t
  fresh : t ≤ reqNow + icfg.delay
  request : q.issueInstant ≤ t + icfg.skew

/-- **C07 (structure)**: whatever the IdP emits for endpoint `e` of SP `md` is accepted by that SP,
    and the accepted assertion is the emitted one: same NameID, same attributes in the same order. -/
theorem C07_accept (icfg : IdpCfg) (md : EntityDesc) (e : Endpoint) (ras : List ReqAttr) (q : Request)
    (s : Session) (reqNow now t : Int) (enc : Bool) (r : ResponseOut) (sp : SP.Cfg) (ids : List String)
    (url : String) (need : SP.Need)
    (hr : respond icfg md e ras q s reqNow now enc = .ok r)
    (hm : ConfigMatch icfg md e sp) (ht : Timely icfg q reqNow now t)
    (hid : sp.allowIdP = true ∨ q.id ∈ ids) :
    SP.parseResponse sp t ids url need .valid (toSPResponse r) = .ok (toSPAssertion r.assertion) ∧
    (toSPAssertion r.assertion).ident = identOf r.assertion ∧
    r.assertion.nameID = s.nameID ∧ r.assertion.attrs = requestedAttrs s ras ++ standardAttrs s := by
  obtain ⟨_, rfl⟩ := respond_eq_ok.mp hr
  -- the clock facts and the equalities of the delay and skew variables, in the context for the `omega` calls below
  obtain ⟨h1, h2, h3, h4⟩ := ht
  have hd := hm.delay
  have hk := hm.skew
  have hk0 := hm.skewNonneg
  refine ⟨SP.accept_single rfl rfl ?_ ?_, rfl, rfl, rfl⟩
  · exact {
      dest := fun _ => .inr hm.acs.symm
      reqId := by rw [SP.ReqIdOK, hm.noReqIdOverride]; exact hid
      fresh := by show t ≤ reqNow + sp.delay; omega
      issuer := fun i hi => by cases hi; exact hm.idp.symm
      status := hm.status.symm
      sig := fun _ => nofun }
  · exact {
      decrypts := by cases enc <;> nofun
      signed := fun _ => rfl
      valid := {
        fresh := by show t ≤ now + sp.delay; omega
        issuer := hm.idp.symm
        subj := ⟨_, rfl, List.forall_mem_singleton.mpr
          ⟨_, rfl, fun hno => hid.resolve_left (by simp [hno]), hm.acs.symm,
            by show t ≤ reqNow + icfg.delay + sp.skew; omega⟩⟩
        cond := ⟨_, rfl,
          by simp only [makeAssertion]; split <;> omega,
          by simp only [makeAssertion]; split <;> omega,
          by rw [SP.AudienceOK, hm.noAudOverride]; exact .inr (List.mem_singleton.mpr hm.aud)⟩ } }

/-! ### 3. registration from published metadata -/

/-- the SP wants (and can take) encrypted assertions: it has a certificate with an RSA key -/
def SPPub.encrypts (p : SPPub) : Bool := p.cert.isSome && p.certIsRSA

theorem C07_published_metadata_routes (p : SPPub) (id : String) (ii : Int) (dest : String) :
    ∃ d, selectACS (spMetadata p) (authnRequestOf p id ii dest) = some (d, postEndpoint p) ∧
      d ∈ (spMetadata p).spsso ∧ d.attrSvcs = [] ∧ d.keys = publishedKeys p := by
  refine ⟨_, ?_, List.mem_singleton.mpr rfl, rfl, rfl⟩
  unfold selectACS allEndpoints spMetadata authnRequestOf postEndpoint
  by_cases h : p.acsURL = ""
  · simp [h, isBrowserBinding, postBinding]
  · simp [h]

/-- an RSA certificate is selected for encryption -/
theorem C07_published_metadata_encrypts (p : SPPub) (c : String) (hc : p.cert = some c) (hr : p.certIsRSA = true)
    (hne : c ≠ "") : selectEncCert (publishedKeys p) = .ok (.cert c) := by
  simp [publishedKeys, selectEncCert, hc, hr, firstCert, hne]

/-- no certificate, or a certificate that cannot receive an RSA key transport (ECDSA): nothing is
    advertised for encryption — also not through the signing descriptor — and the assertion is sent
    signed but unencrypted -/
theorem C07_published_metadata_plain (p : SPPub) (h : p.encrypts = false) :
    selectEncCert (publishedKeys p) = .ok .none := by
  unfold SPPub.encrypts at h
  unfold publishedKeys selectEncCert
  cases hc : p.cert with
  | none => simp
  | some c =>
    have hr : p.certIsRSA = false := by simpa [hc] using h
    cases p.signs <;> simp [hr]

/-- **C07 (end to end)**: the SP's own metadata is sufficient registration.  A request made by SP `p`,
    received by an IdP whose registry holds `p`'s published metadata, is answered — encrypted exactly
    when `p` has an RSA certificate (which must decode) — and the answer is accepted by `p` with
    exactly the session's name identifier and standard attributes.  ECDSA and key-less SPs are
    answered in clear. -/
theorem C07_end_to_end (p : SPPub) (vcfg : Cfg) (icfg : IdpCfg) (usable : String → Bool)
    (registry : String → Lookup) (id : String) (ii : Int) (dest : String) (s : Session)
    (reqNow now t : Int) (url : String) (need : SP.Need) (allowIdP : Bool)
    (hreg : registry p.id = .found (spMetadata p))
    (hdest : dest = "" ∨ dest = vcfg.ssoURL)
    (hfresh : reqNow ≤ ii + vcfg.delay)
    (hcert : ∀ c, p.cert = some c → p.certIsRSA = true → c ≠ "" ∧ usable c = true)
    (ht : Timely icfg ⟨id, ii⟩ reqNow now t) (hk : 0 ≤ icfg.skew) :
    ∃ r, serveSSO vcfg icfg usable registry (authnRequestOf p id ii dest) s reqNow now = .ok r ∧
      r.encrypted = p.encrypts ∧
      SP.parseResponse (spCfgOf p icfg allowIdP) t [id] url need .valid (toSPResponse r) =
        .ok (toSPAssertion r.assertion) ∧
      r.assertion.nameID = s.nameID ∧ r.assertion.attrs = standardAttrs s := by
  obtain ⟨d, hsel, _, hattr, hkeys⟩ := C07_published_metadata_routes p id ii dest
  have hv : validate vcfg reqNow registry (authnRequestOf p id ii dest) = .ok ⟨spMetadata p, d, postEndpoint p⟩ :=
    validate_eq_ok.mpr ⟨hdest, hfresh, rfl, _, rfl, hreg, hsel⟩
  have henc : encryptionOf usable d.keys = .ok p.encrypts := by
    rw [hkeys, encryptionOf_eq_ok]
    cases he : p.encrypts with
    | false => exact .inl ⟨rfl, C07_published_metadata_plain p he⟩
    | true =>
      obtain ⟨hc, hr⟩ := Bool.and_eq_true_iff.mp he
      obtain ⟨c, hc⟩ := Option.isSome_iff_exists.mp hc
      obtain ⟨hne, hu⟩ := hcert c hc hr
      exact .inr ⟨rfl, c, C07_published_metadata_encrypts p c hc hr hne, hu⟩
  have hresp : respond icfg (spMetadata p) (postEndpoint p) [] ⟨id, ii⟩ s reqNow now p.encrypts = .ok _ :=
    respond_eq_ok.mpr ⟨rfl, rfl⟩
  -- `ConfigMatch` holds by `rfl`: `spCfgOf` copies the published values (its audience, `firstSet entityID metadataURL`, is `p.id`)
  refine ⟨_, ?_, rfl, (C07_accept icfg (spMetadata p) (postEndpoint p) [] ⟨id, ii⟩ s reqNow now t p.encrypts _
      (spCfgOf p icfg allowIdP) [id] url need hresp ⟨rfl, rfl, rfl, rfl, rfl, rfl, rfl, rfl, hk⟩ ht
      (.inr (List.mem_singleton.mpr rfl))).1, rfl, List.nil_append _⟩
  rw [serveSSO_eq, Outcome.bind_eq_ok]
  exact ⟨_, hv, produce_eq_ok.mpr ⟨_, henc, by rw [hattr]; exact hresp⟩⟩

/-- the pinned publication advertised any certificate for encryption; for an ECDSA SP the IdP then
    could not answer at all -/
theorem C07_pinned_ecdsa_counterexample :
    encryptionOf (fun _ => false) [⟨"encryption", ["MIIB-ec"]⟩, ⟨"signing", ["MIIB-ec"]⟩] =
      .err "bad-encryption-certificate" := by decide +kernel

def exPub : SPPub := ⟨"", "https://sp/md", "https://sp/acs", some "MIIB", true, true⟩

example : ∃ r, serveSSO ⟨"https://idp/sso", 90000⟩ ⟨"https://idp/md", 90000, 180000⟩ (fun _ => true)
    (fun i => if i = "https://sp/md" then .found (spMetadata exPub) else .notExist)
    (authnRequestOf exPub "id-1" 1000 "https://idp/sso") exSession 1500 1501 = .ok r ∧ r.encrypted = true ∧
    SP.parseResponse (spCfgOf exPub ⟨"https://idp/md", 90000, 180000⟩ false) 2000 ["id-1"] "https://sp/acs" .required .valid
      (toSPResponse r) = .ok (toSPAssertion r.assertion) := by
  -- the hypotheses of `C07_end_to_end` can be met (its arguments are those of the statement)
  refine (C07_end_to_end exPub _ _ _ _ _ _ _ _ _ _ _ _ _ _ (if_pos rfl) (.inr rfl) (by decide)
    (fun c hc _ => ⟨by cases hc; decide +kernel, rfl⟩) ⟨by decide, by decide, by decide, by decide⟩ (by decide)).imp
    fun r ⟨hs, he, hp, _⟩ => ⟨hs, he, hp⟩

end SamlVerif.IdPOut
