/-
  `ServiceProvider.parseArtifactResponse` and `findOneChild` as regenerated from the current service_provider.go: the artifact
  clause of C04 ("accepted only if it answers exactly the ArtifactResolve request the SP just issued") and the signature story of
  C01 one level up.
-/
import SamlVerif.Props.TransParse
open SamlVerif SamlVerif.GoSem
namespace SamlVerif.TransSP

theorem findOneChild_spec (env : Trans.Env) (el : Option Element) (ns tag : String) (x : Option Element)
    (h : Trans.findOneChild env el ns tag = .ok (x, none)) : env.findChildren el ns tag = .ok ([x], none) := by
  unfold Trans.findOneChild at h
  simp only [go_inv] at h
  obtain ⟨l, e, hf, ⟨hne, -, he⟩ | ⟨rfl, -, hlen, -, hx⟩⟩ := h
  · exact absurd he hne
  · obtain ⟨y, rfl⟩ := List.length_eq_one_iff.1 (Int.ofNat_inj.1 hlen)
    cases hx
    exact hf

/-- **C04 (artifact clause) and C01 on the translated `parseArtifactResponse`**: a returned assertion means the ArtifactResponse
    answers exactly the ArtifactResolve request just issued, is fresh, from the IdP and Success; its signature verified or is absent
    (never invalid); it holds exactly one Response, and the translated `parseResponse` accepted that Response with a signature
    *required* unless the ArtifactResponse's own signature verified. -/
theorem parseArtifactResponse_sound (env : Trans.Env) (sp : Trans.ServiceProvider) (el : Option Element) (ids : List String)
    (rid : String) (now : Int) (url : URL) (a : Trans.Assertion)
    (h : Trans.parseArtifactResponse env sp el ids rid now url = .ok (some a, none)) :
    ∃ ar sigErr respEl need,
      env.unmarshalElement_ArtifactResponse el = .ok (ar, none) ∧
      ar.InResponseTo = rid ∧ now ≤ ar.IssueInstant + env.MaxIssueDelay ∧
      (∀ i, ar.Issuer = some i → ∃ idp, sp.IDPMetadata = some idp ∧ i.Value = idp.EntityID) ∧
      ar.Status.StatusCode.Value = env.StatusSuccess ∧
      env.validateSignature sp el = .ok sigErr ∧
      ((sigErr = none ∧ need = 1) ∨ (sigErr ≠ none ∧ sigErr = env.errSignatureElementNotPresent ∧ need = 0)) ∧
      env.findChildren el "urn:oasis:names:tc:SAML:2.0:protocol" "Response" = .ok ([respEl], none) ∧
      Trans.parseResponse env sp respEl ids now need url = .ok (some a, none) := by
  unfold Trans.parseArtifactResponse at h
  -- the five unnamed: the default `ArtifactResponse` and the four error values the Go code builds only to discard (`let _ := …`)
  extract_lets retErr _ _ _ _ _ need0 tail need1 at h
  have htail : ∀ need, tail () need = .ok (some a, none) →
      ∃ respEl, env.findChildren el "urn:oasis:names:tc:SAML:2.0:protocol" "Response" = .ok ([respEl], none) ∧
        Trans.parseResponse env sp respEl ids now need url = .ok (some a, none) := by
    intro need ht
    simp only [tail, go_inv] at ht
    obtain ⟨respEl, _, hc, rfl, _, _, hp, rfl, rfl⟩ := ht
    exact ⟨respEl, findOneChild_spec env el _ _ respEl hc, hp⟩
  -- every error return is `(nil, retErr)`, which is not the result: only the run through all the checks is left
  simp only [go_inv] at h
  obtain ⟨ar, _, hu, rfl, hirt, hf, b, hiss, hb, hst, sigErr, hsig, ⟨rfl, ht⟩ | ⟨hne, hab, ht⟩⟩ := h
  · obtain ⟨respEl, hfc, hpr⟩ := htail _ ht
    exact ⟨ar, none, respEl, 1, hu, hirt, Int.not_lt.1 hf, issuer_checked hiss hb, hst, hsig, Or.inl ⟨rfl, rfl⟩, hfc, hpr⟩
  · obtain ⟨respEl, hfc, hpr⟩ := htail _ ht
    exact ⟨ar, sigErr, respEl, 0, hu, hirt, Int.not_lt.1 hf, issuer_checked hiss hb, hst, hsig, Or.inr ⟨hne, hab, rfl⟩,
      hfc, hpr⟩

/-- with the signature story spelled out: the returned assertion is covered by a verified signature on its own element, on the
    Response, or on the ArtifactResponse -/
theorem Trans_parseArtifactResponse_signed (env : Trans.Env) (sp : Trans.ServiceProvider) (el : Option Element) (ids : List String)
    (rid : String) (now : Int) (url : URL) (a : Trans.Assertion)
    (h : Trans.parseArtifactResponse env sp el ids rid now url = .ok (some a, none)) :
    env.validateSignature sp el = .ok none ∨
    ∃ respEl x, env.findChildren el "urn:oasis:names:tc:SAML:2.0:protocol" "Response" = .ok ([respEl], none) ∧
      Source env sp respEl x ∧ env.unmarshalElement_Assertion x = .ok (a, none) ∧
      (env.validateSignature sp x = .ok none ∨ env.validateSignature sp respEl = .ok none) := by
  obtain ⟨ar, sigErr, respEl, need, _, _, _, _, _, hsig, hnd, hfc, hpr⟩ := parseArtifactResponse_sound env sp el ids rid now url a h
  rcases hnd with ⟨hs, _⟩ | ⟨_, _, hn⟩
  · left; rw [hsig, hs]
  · right
    subst hn
    obtain ⟨x, hsrc, hum, hsg, _⟩ := Trans_parseResponse_signed env sp respEl ids now url a hpr
    exact ⟨respEl, x, hfc, hsrc, hum, hsg⟩

end SamlVerif.TransSP
