/-
  The models' reading of "for all sequences of message creations / validations" — package saml.

  Every model of a ServiceProvider / IdentityProvider method is a *function* of the configuration value and the message, so a
  sequence of calls is the single call repeated and the per-call theorems hold for every call of every
  sequence.  That is the code's behaviour only while the code keeps no state between calls.  These are
  obligations at the regenerated hidden-state facts (extract/state.go): no unexported field in `ServiceProvider` / `IdentityProvider`, no assignment through their pointer receivers, and no package-level variable beyond the documented knobs the harness pins (`TimeNow`, `Clock`, `RandReader`, `MaxIssueDelay`, `MaxClockSkew`, `StatusSuccess`), the compiled template and regular expressions and the write settings.
  A cache on the configuration value, a buffer pool or memo table at package level, break one of them
  whatever the generators happen to reach (the harness's stateful sequences are the search for the
  failing history).
-/
import SamlVerif.Generated.Facts

namespace SamlVerif.Pure

/-- the configuration types have exported fields only: what a deployment sets is all there is -/
theorem Pure_saml_no_hidden_fields : Facts.configUnexportedFields_saml = [] := rfl

/-- no method of `ServiceProvider` / `IdentityProvider` assigns through its pointer receiver -/
theorem Pure_saml_no_receiver_writes : Facts.configReceiverWrites_saml = [] := rfl

theorem Pure_saml_package_state : Facts.packageState_saml =
    ["saml.Clock (declared <*ast.StarExpr>)", "saml.MaxClockSkew (expr)", "saml.MaxIssueDelay (expr)",
     "saml.Metadata (literal <*ast.StructType>)", "saml.RandReader (expr)", "saml.StatusSuccess (constant)",
     "saml.TimeNow (func)", "saml.defaultResponseFormTemplate (call template.Must)",
     "saml.durationRegexp (call regexp.MustCompile)", "saml.durationTimeRegexp (call regexp.MustCompile)",
     "saml.xmlWriteSettings (literal etree.WriteSettings)"] := rfl

end SamlVerif.Pure
