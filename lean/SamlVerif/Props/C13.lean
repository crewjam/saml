/-
  C13 — Signatures on SP outbound messages verify under the SP's published certificate.

  "… for the redirect binding over exactly the octets 'SAMLRequest=...[&RelayState=...]&SigAlg=...'
   as they appear in the emitted URL, and for POST-binding requests, logout messages and artifact
   resolution as an enveloped XML signature over the emitted element.  A signature method that does
   not match the key type, or is unknown, is refused with an error instead of producing an unsigned
   or unverifiable message."

  Partial: the signature primitive is a parameter (`sign`); that the emitted signature verifies under
  the published certificate is checked on the real code by the correspondence (independent
  verification with crypto/rsa, crypto/ecdsa and an independent dsig validation context).
-/
import SamlVerif.Proofs.Bindings
import SamlVerif.Model.Signing
import SamlVerif.Generated.Facts

namespace SamlVerif.Bindings
open SamlVerif.Codec SamlVerif.Signing

/-- **Redirect octets**: the emitted query is `pre ‖ S ‖ "&Signature=" ‖ esc(base64(sign S))` where
    `S = SAMLRequest=…[&RelayState=…]&SigAlg=…` is exactly what was signed, and `pre` is empty or the
    endpoint's own query followed by `&` — so a verifier that reconstructs `S` from the URL's
    SAMLRequest/RelayState/SigAlg parameters checks the same octets. -/
theorem C13_redirect_octets (q0 msg relay alg : Bytes) (sign : Bytes → Bytes) :
    redirectQuery q0 msg relay (some (alg, sign)) =
      pre q0 ++ signedOctets msg relay alg ++
        (38 :: encodePair kSignature (b64encode (sign (signedOctets msg relay alg)))) := rfl

/-- the signed octets, parsed on their own, are exactly the three parameters in the order the
    binding specification prescribes -/
theorem C13_signed_octets_shape (msg relay alg : Bytes) :
    (parseQuery (signedOctets msg relay alg)).1 = expectedParams msg relay ++ [(kSigAlg, alg)] := by
  rw [signedOctets_params]

/-- The pinned assembly signed the endpoint's own query as well: with `foo=bar` on the endpoint the
    signature input differs from the octets a verifier reconstructs (toy signer = identity). -/
theorem C13_pinned_signs_endpoint_query :
    let q := redirectQueryPinned [102, 61, 49] [77] [] (some ([65], id))
    let q' := redirectQuery [102, 61, 49] [77] [] (some ([65], id))
    q ≠ q' := by decide +kernel

/-! ### method / key consistency at the regenerated facts -/

/-- a signing context is produced exactly for a known method whose key has the required Go type -/
theorem C13_method_key (table : List (String × String)) (m k : String) :
    signingContext table m k = .ok () ↔ table.lookup m = some k := by
  unfold signingContext
  cases table.lookup m <;> simp

/-- the table in the source maps every one of the eight method URIs to the key family of that URI,
    and nothing else -/
theorem C13_table_consistent :
    (∀ p ∈ Facts.signingMethods, familyOfURI p.1 = some p.2) ∧
    (∀ m ∈ knownMethods, (Facts.signingMethods.lookup m).isSome = true) := by decide +kernel

/-- hence an unknown method, or a method of the other key family, is refused -/
theorem C13_refuses_mismatch (m k : String) (h : signingContext Facts.signingMethods m k = .ok ()) :
    familyOfURI m = some k := by
  rw [C13_method_key] at h
  obtain ⟨l1, l2, hl, _⟩ := List.lookup_eq_some_iff.mp h
  exact C13_table_consistent.1 (m, k) (by simp [hl])

theorem C13_facts_extracted : Facts.extractionFailures = [] := rfl

end SamlVerif.Bindings
