/-
  C03 — SP accepts only assertions addressed to it by its configured IdP.

  "An assertion is accepted only if it comes from the configured IdP and is meant for this SP: the
   Response Issuer (when present) and the Assertion Issuer equal the IdP entity ID, every
   SubjectConfirmation Recipient equals the SP's ACS URL, audience restrictions (when present) name
   the SP's entity ID (or its metadata URL when no entity ID is set, or satisfy the application's own
   audience validator), the Response status is Success, and Destination - mandatory whenever a
   Response delivered through the browser carries a signature - equals the ACS URL or the URL at
   which the response was received.  An otherwise valid response satisfying all of these is
   accepted, and a non-Success status is reported as such."
-/
import SamlVerif.Props.C02

namespace SamlVerif.SP

structure Addressed (cfg : Cfg) (url : String) (need : Need) (respSig : SigState)
    (r : ResponseS) (a : AssertionS) : Prop where
  respIssuer : ∀ i, r.issuer = some i → i = cfg.idpEntityID
  assnIssuer : a.issuer = cfg.idpEntityID
  recipients : ∃ scs, a.subject = some scs ∧
                ∀ sc ∈ scs, ∃ d, sc.data = some d ∧ d.recipient = cfg.acsURL
  audience : ∃ c, a.conditions = some c ∧
      match cfg.audValidator with
      | some f => f a = true
      | none => c.audiences = [] ∨ (if cfg.entityID = "" then cfg.metadataURL else cfg.entityID) ∈ c.audiences
  status : r.status = cfg.statusSuccess
  /-- Destination is mandatory when a browser-delivered Response carries a signature
      (`need = required` is the browser entry point; under an artifact envelope whose own signature
      verified the Response signature is not looked at). -/
  destination : ((need = .required ∧ respSig ≠ .absent) ∨ r.destination ≠ "") →
      r.destination = url ∨ r.destination = cfg.acsURL

theorem C03_sound (cfg : Cfg) (now : Int) (ids : List String) (url : String) (need : Need)
    (respSig : SigState) (r : ResponseS) (a : AssertionS)
    (h : parseResponse cfg now ids url need respSig r = .ok a) :
    Addressed cfg url need respSig r a := by
  obtain ⟨hr, e, -, hg, rfl⟩ := accept_sound h
  obtain ⟨c, hc, _, _, haud⟩ := hg.valid.cond
  -- `Addressed.audience` is `AudienceOK` written out: `haud` fits as it is
  exact ⟨hr.issuer, hg.valid.issuer, hg.valid.forall_conf fun _ _ h _ => h, ⟨c, hc, haud⟩,
    hr.status, hr.dest⟩

/-- A signed browser-delivered Response without Destination is rejected. -/
theorem C03_destination_mandatory_when_signed (cfg now ids url respSig r)
    (hs : respSig ≠ .absent) (hd : r.destination = "") (hu : url ≠ "") (ha : cfg.acsURL ≠ "") :
    ∀ a, parseResponse cfg now ids url .required respSig r ≠ .ok a := by
  intro a h
  have := (accept_sound h).1.dest (.inl ⟨rfl, hs⟩)
  simp [hd, Ne.symm hu, Ne.symm ha] at this

/-- Comparison is equality of whole strings: nothing that differs from the expected value — in
    particular no proper prefix, extension or case variant — is accepted as Recipient. -/
theorem C03_no_near_miss_recipient (cfg now ids url need respSig r a)
    (h : parseResponse cfg now ids url need respSig r = .ok a)
    (scs : List SubjConf) (hs : a.subject = some scs) (sc : SubjConf) (hsc : sc ∈ scs)
    (d : SCData) (hd : sc.data = some d) : ¬ (d.recipient ≠ cfg.acsURL) :=
  not_not_intro (conf_of_forall_conf (C03_sound _ _ _ _ _ _ _ _ h).recipients hs hsc hd)

/-- **Completeness** (same statement as C02_complete, restated for the addressing reading). -/
theorem C03_complete (cfg : Cfg) (now : Int) (ids : List String) (url : String) (need : Need)
    (respSig : SigState) (r : ResponseS)
    (hr : RespOK cfg now ids url need respSig r)
    (he : ∃ e ∈ r.entries, EntryGood cfg now ids (needAfter need respSig) e) :
    ∃ a, parseResponse cfg now ids url need respSig r = .ok a :=
  accept_exists_iff.mpr ⟨hr, he⟩

/-- A non-Success status is reported as such (the error carries the status value). -/
theorem C03_bad_status (cfg : Cfg) (now : Int) (ids : List String) (url : String) (need : Need)
    (respSig : SigState) (r : ResponseS)
    (hd : ((need = .required ∧ respSig ≠ .absent) ∨ r.destination ≠ "") →
          r.destination = url ∨ r.destination = cfg.acsURL)
    (hr : ReqIdOK cfg r ids) (hf : now ≤ r.issueInstant + cfg.delay)
    (hi : ∀ i, r.issuer = some i → i = cfg.idpEntityID)
    (hs : r.status ≠ cfg.statusSuccess) :
    parseResponse cfg now ids url need respSig r = .err ("bad-status:" ++ r.status) := by
  -- the three checks before the status test pass by `hr`, `hf`, `hi`; what `simp` leaves says
  -- that the destination check does not fire, which is `hd`
  simp [parseResponse, hs, (reqIdOK_iff ..).mpr hr, (issuerMismatch_iff ..).mpr hi,
    Int.not_lt.mpr hf]
  exact fun h h1 h2 => ((hd h).elim h1 h2).elim

/-- Same checks for artifact responses: envelope issuer/status, then the inner Response. -/
theorem C03_artifact (cfg : Cfg) (now : Int) (ids : List String) (resolveId url : String)
    (ar : ArtifactResponseS) (a : AssertionS)
    (h : parseArtifactResponse cfg now ids resolveId url ar = .ok a) :
    (∀ i, ar.issuer = some i → i = cfg.idpEntityID) ∧ ar.status = cfg.statusSuccess ∧
    ∃ rs r, ar.response = some (rs, r) ∧
      Addressed cfg url (if ar.sig = .valid then .notRequired else .required) rs r a := by
  obtain ⟨_, _, h3, h4, _, rs, r, hr, hp⟩ := (artifact_accept_iff ..).mp h
  exact ⟨h3, h4, rs, r, hr, C03_sound _ _ _ _ _ _ _ _ hp⟩

example : Addressed exCfg "https://sp/acs" .required .absent exResp exGood :=
  C03_sound exCfg 1090000 ["id-1"] "https://sp/acs" .required .absent exResp exGood (by decide +kernel)

example : parseResponse exCfg 1090000 ["id-1"] "https://sp/acs" .required .absent
    { exResp with status := "Responder" } = .err "bad-status:Responder" := by decide +kernel

end SamlVerif.SP
