/-
  Props/TransEncCert — `IdpAuthnRequest.getSPEncryptionCert` as regenerated from the current identity_provider.go, up to the
  point where the chosen certificate string is decoded (the statements before `certStr = regexp…`): which key descriptor's
  certificate the IdP will encrypt to, or that there is none (`os.ErrNotExist`, the only case in which `MakeAssertionEl` leaves the
  assertion in clear), or that the advertised one is unusable (an error).

  `Trans_getSPEncryptionCert_eq`: the two loops compute the hand-written model `IdP.selectEncCert` — so C08's theorems about the
  model (`C08_plaintext_iff`, `C08_no_downgrade`, `C08_selected_certificate`, …) are theorems about the translated code;
  `Trans_encCert_plaintext_iff` / `Trans_encCert_no_downgrade` spell the first two out on the regenerated types.
-/
import SamlVerif.Proofs.TransIdP
import SamlVerif.Props.C08
open SamlVerif SamlVerif.GoSem
namespace SamlVerif.TransIdP

def absKey (k : Trans.KeyDescriptor) : IdP.KeyDesc :=
  { use := k.Use, certs := k.KeyInfo.X509Data.X509Certificates.map (·.Data) }

/-- the Go result for each answer of the model; `selectEncCert` has one error and never panics: the last arm is never met -/
def certResult : Outcome IdP.EncCert → String × GoError
  | .ok (.cert c) => (c, none)
  | .ok .none => ("", some "os.ErrNotExist")
  | .err _ => ("", some "encryption key descriptor contains no certificate")
  | .panic _ => ("", some "panic")

theorem firstCert_ne_empty {k : IdP.KeyDesc} {c : String} (h : IdP.firstCert k = some c) : c ≠ "" := by
  revert h
  fun_cases IdP.firstCert k
  -- 2: a first certificate that is not the empty string; the other two leaves are `none`
  case case2 hne =>
    rintro ⟨⟩
    exact hne
  all_goals nofun

/-- The two loops compute the hand-written model: the first is a search for the descriptor marked "encryption", whose first
    certificate decides; the second, run when there was none, a search for the first unmarked descriptor with a certificate. -/
theorem Trans_getSPEncryptionCert_eq (env : Trans.Env) (req : Trans.IdpAuthnRequest) (d : Trans.SPSSODescriptor)
    (h : req.SPSSODescriptor = some d) :
    Trans.getSPEncryptionCert env req = .ok (certResult (IdP.selectEncCert (d.KeyDescriptors.map absKey))) := by
  unfold Trans.getSPEncryptionCert
  simp only [h, deref_some, Outcome.ok_bind', Outcome.pure_eq_ok]
  rw [forIn_find d.KeyDescriptors (none, "") _ (fun k => k.Use == "encryption")
        (fun k => match IdP.firstCert (absKey k) with
          | none => (some ("", some "encryption key descriptor contains no certificate"), "")
          | some c => (none, c))]
  · have hfind : (d.KeyDescriptors.map absKey).find? (fun k => k.use = "encryption") =
        (d.KeyDescriptors.find? (fun k => k.Use == "encryption")).map absKey := List.find?_map
    rw [IdP.selectEncCert, hfind]
    cases hf : d.KeyDescriptors.find? (fun k => k.Use == "encryption") with
    | some k =>
      simp only [Outcome.ok_bind', Option.map_some]
      cases hc : IdP.firstCert (absKey k) with
      | none => rfl
      | some c =>
        simp [certResult, firstCert_ne_empty hc]
    | none =>
      simp only [Outcome.ok_bind', Option.map_none, beq_self_eq_true, ↓reduceIte]
      rw [forIn_find d.KeyDescriptors "" _ (fun k => k.Use == "" && (IdP.firstCert (absKey k)).isSome)
        (fun k => (IdP.firstCert (absKey k)).getD "")]
      · have hfind2 : (d.KeyDescriptors.map absKey).find? (fun k => k.use = "" && (IdP.firstCert k).isSome) =
            (d.KeyDescriptors.find? (fun k => k.Use == "" && (IdP.firstCert (absKey k)).isSome)).map absKey := List.find?_map
        rw [hfind2]
        cases hf2 : d.KeyDescriptors.find? (fun k => k.Use == "" && (IdP.firstCert (absKey k)).isSome) with
        | none => rfl
        | some k =>
          obtain ⟨c, hc⟩ := Option.isSome_iff_exists.mp (Bool.and_eq_true_iff.mp (List.find?_some hf2 :)).2
          simp [certResult, hc, firstCert_ne_empty hc]
      · intro k _
        cases hc : k.KeyInfo.X509Data.X509Certificates with
        | nil => simp [IdP.firstCert, absKey, hc]
        | cons c rest =>
          have hl : ¬ ((rest.length : Int) + 1 = 0) := by omega
          by_cases hu : k.Use = "" <;> by_cases hd : c.Data = "" <;> simp [IdP.firstCert, absKey, hc, hu, hd, index, hl]
  · intro k _
    cases hc : k.KeyInfo.X509Data.X509Certificates with
    | nil => by_cases hu : k.Use = "encryption" <;> simp [IdP.firstCert, absKey, hc, hu]
    | cons c rest =>
      have hl : ¬ ((rest.length : Int) + 1 = 0) := by omega
      by_cases hu : k.Use = "encryption" <;> by_cases hd : c.Data = "" <;> simp [IdP.firstCert, absKey, hc, hu, hd, index, hl]

/-- **C08 on the translated code**: "no key" (the only answer after which the assertion is emitted in clear) is returned exactly
    when the registered metadata advertises no encryption key: no descriptor with use "encryption", and no unlabeled descriptor
    with a non-empty certificate. -/
theorem Trans_encCert_plaintext_iff (env : Trans.Env) (req : Trans.IdpAuthnRequest) (d : Trans.SPSSODescriptor)
    (h : req.SPSSODescriptor = some d) :
    (∃ c, Trans.getSPEncryptionCert env req = .ok (c, some "os.ErrNotExist")) ↔ ¬ IdPOut.Advertises (d.KeyDescriptors.map absKey) := by
  rw [Trans_getSPEncryptionCert_eq env req d h, ← IdPOut.selectEncCert_none_iff]
  rcases IdP.selectEncCert (d.KeyDescriptors.map absKey) with (_ | _) | _ | _ <;> simp [certResult]

/-- **no downgrade**: with an encryption key advertised the translated selection returns a certificate string or an error that
    is not "no key" -/
theorem Trans_encCert_no_downgrade (env : Trans.Env) (req : Trans.IdpAuthnRequest) (d : Trans.SPSSODescriptor)
    (h : req.SPSSODescriptor = some d) (hadv : IdPOut.Advertises (d.KeyDescriptors.map absKey)) (c : String) (e : GoError)
    (hr : Trans.getSPEncryptionCert env req = .ok (c, e)) : e ≠ some "os.ErrNotExist" := by
  rintro rfl
  exact (Trans_encCert_plaintext_iff env req d h).1 ⟨c, hr⟩ hadv

end SamlVerif.TransIdP
