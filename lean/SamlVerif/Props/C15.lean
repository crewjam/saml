/-
  C15 — Durations, instants and metadata round-trip through their XML text forms.

  "Every Duration marshals to xsd:duration text that unmarshals to the identical duration; every
   instant marshals to xsd:dateTime text that unmarshals to the same instant rounded to the
   millisecond in UTC; and unmarshalling accepts the documented lexical forms (RFC 3339 with or
   without zone or fraction) and rejects others with an error. …"
-/
import SamlVerif.Proofs.Duration
import SamlVerif.Proofs.Time
import SamlVerif.Model.Metadata

namespace SamlVerif.Duration

/-- **C15 (durations)**: every int64 nanosecond duration — zero, negative, sub-second, the extremes
    `MinInt64`/`MaxInt64` included — marshals to text that unmarshals to the identical duration. -/
theorem C15_duration_roundtrip (d : Int) (h1 : -two63 ≤ d) (h2 : d < two63) :
    roundTrip d = .ok d := by
  unfold roundTrip
  by_cases hd : d = 0
  · simp [hd]
  · -- proved before `hms` is in the context, whose facts `omega` would otherwise take up and split on
    have hh : ((d.natAbs / hourNs : Nat) : Int) < two63 := by
      unfold two63 hourNs minNs secNs at *
      omega
    have habs : (if d < 0 then -(d.natAbs : Int) else d.natAbs) = d := by omega
    obtain ⟨hsum, hm, hs, hns, hpos⟩ := hms d.natAbs
    have key := parse_PT (decide (d < 0)) _ _ _ _ hh hm hs hns (hpos (Int.natAbs_pos.mpr hd))
    simp only [decide_eq_true_eq, hsum] at key
    rw [if_neg hd, marshal_eq d hd, key, habs, wrap64_id d h1 h2]

/-- The marshalled text is never the unparseable `-PT`/`PT` (the pinned tree's MinInt64 defect). -/
theorem C15_marshal_has_field (d : Int) (hd : d ≠ 0) :
    timeText (d.natAbs / hourNs) (d.natAbs % hourNs / minNs) (d.natAbs % minNs / secNs)
      (d.natAbs % secNs) ≠ [] :=
  timeText_ne_nil _ _ _ _ ((hms d.natAbs).2.2.2.2 (Int.natAbs_pos.mpr hd))

/-! Non-vacuity / witnesses -/
example : roundTrip (-9223372036854775808) = .ok (-9223372036854775808) :=
  C15_duration_roundtrip _ (by decide) (by decide)
example : String.ofList (marshal 90061000000001) = "PT25H1M1.000000001S" := by decide +kernel
example : parse "PT0.1234567899S".toList = .ok 123456789 := by decide +kernel
example : parse "PT".toList = .err "syntax" := by decide +kernel
example : parse "P".toList = .err "empty" := by decide +kernel
example : parse "P1Y2M3DT4H5M6.5S".toList = .ok 36993906500000000 := by decide +kernel

end SamlVerif.Duration

namespace SamlVerif.TimeM

/-- the year of an instant given in nanoseconds since the epoch, after rounding to the millisecond -/
def yearOf (ns : Int) : Int := (civilFromDays (roundMs ns / 86400000)).year

/-- **C15 (instants)**: every instant whose rounded value lies in a year of at most four digits is
    written as text that reads back as that instant rounded to the millisecond -/
theorem C15_instant_roundtrip (ns : Int) (hy : 0 ≤ yearOf ns ∧ yearOf ns ≤ 9999) :
    unmarshal (marshal ns) = some (roundMs ns) := unmarshal_marshalMs (roundMs ns) hy

/-- rounding is to the nearest millisecond, halves up -/
theorem C15_round_nearest (ns : Int) :
    roundMs ns * 1000000 - 500000 ≤ ns ∧ ns < roundMs ns * 1000000 + 500000 ∧
    (ns % 1000000 = 500000 → roundMs ns * 1000000 = ns + 500000) := by
  simp only [roundMs]
  omega

/-- rounding a whole number of milliseconds changes nothing (so a second round trip is the identity) -/
theorem C15_round_idempotent (ns : Int) : roundMs (roundMs ns * 1000000) = roundMs ns := roundMs_exact rfl

/-- the text is in UTC: it ends in `Z` -/
theorem C15_written_in_utc (ms : Int) : (marshalMs ms).getLast? = some 'Z' := by
  unfold marshalMs
  simp only [List.getLast?_append, List.getLast?_singleton, Option.some_or]

/-- the civil date written is a real one and determines the day (calendar is inverted exactly) -/
theorem C15_calendar (z : Int) :
    daysFromCivil (civilFromDays z) = z ∧ 1 ≤ (civilFromDays z).month ∧ (civilFromDays z).month ≤ 12 ∧
    1 ≤ (civilFromDays z).day ∧ (civilFromDays z).day ≤ daysIn (civilFromDays z).year (civilFromDays z).month :=
  calendar_roundtrip z

/-- the one place in years 1..9999 where the full statement fails: the last half millisecond of 9999
    rounds into year 10000, whose five-digit year is not read back (known finding) -/
theorem C15_year_10000_counterexample :
    yearOf (253402300799 * 1000000000 + 999500000) = 10000 ∧
    unmarshal (marshal (253402300799 * 1000000000 + 999500000)) = none := by
  constructor <;> decide +kernel

/-! accepted and rejected lexical forms (tests of the reader on the documented forms; the reader is tied
    to `UnmarshalText` by the correspondence on generated and mutated strings) -/
example : unmarshal "2006-01-02T15:04:05Z".toList = some 1136214245000 := by decide +kernel
example : unmarshal "2006-01-02T15:04:05.5+07:00".toList = some 1136189045500 := by decide +kernel
example : unmarshal "2006-01-02T15:04:05".toList = some 1136214245000 := by decide +kernel
example : unmarshal "2006-01-02T15:04:05.0004999Z".toList = some 1136214245000 := by decide +kernel
example : unmarshal "2006-01-02T15:04:05.0005Z".toList = some 1136214245001 := by decide +kernel
example : unmarshal "".toList = some zeroTimeMs := by decide
example : unmarshal "2006-02-30T00:00:00Z".toList = none := by decide +kernel
example : unmarshal "1900-02-29T00:00:00Z".toList = none := by decide +kernel
example : unmarshal "2006-01-02T24:00:00Z".toList = none := by decide +kernel
example : unmarshal "2006-01-02 15:04:05Z".toList = none := by decide +kernel
example : unmarshal "2006-01-02T15:04:05+0700".toList = none := by decide +kernel
example : 0 ≤ yearOf 1136214245000000000 ∧ yearOf 1136214245000000000 ≤ 9999 := by decide +kernel

end SamlVerif.TimeM

/-! ### metadata: one marshal/unmarshal generation reaches the normal form, which is a fixed point -/

namespace SamlVerif.Metadata

theorem check_unknown (b : String) (l : Bytes) (h : Html.knownBindings.contains b = false) :
    Html.checkEndpointLocation b l = .ok [] := by
  unfold Html.checkEndpointLocation
  rw [h]
  rfl

theorem normEndpoint_known (e : Endpoint) (h : Html.knownBindings.contains e.binding = true) : normEndpoint e = e := by
  unfold normEndpoint; rw [h]; rfl

theorem normEndpoint_unknown (e : Endpoint) (h : Html.knownBindings.contains e.binding = false) :
    normEndpoint e = { e with location := [], response := none } := by
  unfold normEndpoint; rw [h]; rfl

theorem readEndpoint_norm (e : Endpoint) (h : Acceptable e) : readEndpoint e = .ok (normEndpoint e) := by
  obtain ⟨idx, bnd, loc, resp⟩ := e
  obtain ⟨hne, hk⟩ := h
  -- both kinds of endpoint, with and without a response location: the same unfolding
  cases hb : Html.knownBindings.contains bnd
  · cases idx <;> cases resp <;>
      simp [readEndpoint, normEndpoint, Html.unmarshalEndpoint, Html.unmarshalIndexedEndpoint,
        check_unknown _ _ hb, show bnd ∉ Html.knownBindings by simpa using hb]
  · obtain ⟨hl, hr⟩ := hk hb
    cases idx <;> cases resp <;>
      simp_all [readEndpoint, normEndpoint, Html.unmarshalEndpoint, Html.unmarshalIndexedEndpoint, HttpLoc]

theorem readEndpoints_norm (es : List Endpoint) (h : ∀ e ∈ es, Acceptable e) :
    readEndpoints es = .ok (es.map normEndpoint) := by
  induction es with
  | nil => rfl
  | cons e es ih =>
    unfold readEndpoints
    rw [readEndpoint_norm e (h e (by simp)), ih (fun x hx => h x (by simp [hx]))]
    rfl

/-- the value is one the text forms can carry: the rounded validity instant lies in a year of at most
    four digits, the cache duration is an int64, endpoints of standard bindings are http(s) URLs -/
structure WellFormed (v : MD) : Prop where
  year : 0 ≤ TimeM.yearOf v.validUntil ∧ TimeM.yearOf v.validUntil ≤ 9999
  dur : -Duration.two63 ≤ v.cacheDuration ∧ v.cacheDuration < Duration.two63
  eps : ∀ e ∈ v.endpoints, Acceptable e

/-- **C15 (metadata), one generation**: what is read back from what was written is the normal form of
    the value — instant rounded to the millisecond, endpoints of unknown bindings blanked, everything
    else (entity ID, key descriptors, cache duration, http(s) endpoints) as it was -/
theorem C15_metadata_generation (v : MD) (h : WellFormed v) : read (write v) = .ok (norm v) := by
  -- the optional attribute is `Duration.roundTrip`: absent for zero, and absent reads as zero
  have hd : readDuration (if v.cacheDuration = 0 then none else some (Duration.marshal v.cacheDuration)) =
      Duration.roundTrip v.cacheDuration := by
    unfold Duration.roundTrip
    split <;> rfl
  simp only [read, write, TimeM.C15_instant_roundtrip v.validUntil h.year, hd,
    Duration.C15_duration_roundtrip _ h.dur.1 h.dur.2, readEndpoints_norm v.endpoints h.eps]
  rfl

theorem normEndpoint_idem (e : Endpoint) : normEndpoint (normEndpoint e) = normEndpoint e := by
  cases hb : Html.knownBindings.contains e.binding with
  | true => rw [normEndpoint_known e hb, normEndpoint_known e hb]
  | false =>
    rw [normEndpoint_unknown e hb]
    exact normEndpoint_unknown _ hb

/-- the normal form is a fixed point of normalisation … -/
theorem C15_metadata_norm_idempotent (v : MD) : norm (norm v) = norm v := by
  simp only [norm, List.map_map, Function.comp_def, TimeM.C15_round_idempotent, normEndpoint_idem]

theorem acceptable_norm (e : Endpoint) (h : Acceptable e) : Acceptable (normEndpoint e) := by
  cases hb : Html.knownBindings.contains e.binding with
  | true => rw [normEndpoint_known e hb]; exact h
  | false =>
    rw [normEndpoint_unknown e hb]
    exact ⟨by simp, fun hk => nomatch hb.symm.trans hk⟩

theorem wellFormed_norm (v : MD) (h : WellFormed v) : WellFormed (norm v) where
  year := by simpa only [norm, TimeM.yearOf, TimeM.C15_round_idempotent] using h.year
  dur := h.dur
  eps := by
    intro e he
    obtain ⟨e0, he0, rfl⟩ := List.mem_map.mp he
    exact acceptable_norm e0 (h.eps e0 he0)

/-- … **and of a further marshal/unmarshal generation**: after one generation the value no longer changes -/
theorem C15_metadata_fixed_point (v : MD) (h : WellFormed v) : read (write (norm v)) = .ok (norm v) := by
  rw [C15_metadata_generation (norm v) (wellFormed_norm v h), C15_metadata_norm_idempotent]

/-- what the generation preserves, spelled out -/
theorem C15_metadata_preserves (v : MD) :
    (norm v).entityID = v.entityID ∧ (norm v).keys = v.keys ∧ (norm v).cacheDuration = v.cacheDuration ∧
    (norm v).validUntil = TimeM.roundMs v.validUntil * 1000000 ∧
    (norm v).endpoints.length = v.endpoints.length ∧
    (∀ e ∈ v.endpoints, Html.knownBindings.contains e.binding = true → normEndpoint e = e) :=
  ⟨rfl, rfl, rfl, rfl, by simp [norm], fun e _ => normEndpoint_known e⟩

def bs (s : String) : Bytes := s.toList.map (fun c => UInt8.ofNat c.toNat)

/-- non-vacuity: a descriptor with a non-millisecond validity instant in a zone-free representation, a sub-second
    cache duration, an http endpoint, an endpoint of an unknown binding and a key descriptor is well-formed -/
def sampleMD : MD :=
  { entityID := "https://sp.example.com/metadata", validUntil := 1715949045123456789, cacheDuration := 5400000000001,
    endpoints := [⟨true, "urn:oasis:names:tc:SAML:2.0:bindings:HTTP-POST", bs "https://sp.example.com/acs", none⟩,
                  ⟨false, "urn:unknown:binding", bs "javascript:alert(1)", some (bs "x")⟩],
    keys := [⟨"signing", ["MIIB"]⟩] }

example : read (write sampleMD) = .ok (norm sampleMD) := by decide +kernel
example : (norm sampleMD).validUntil = 1715949045123000000 ∧ (norm sampleMD).endpoints.map (·.location) =
    [bs "https://sp.example.com/acs", []] := by decide +kernel

end SamlVerif.Metadata
