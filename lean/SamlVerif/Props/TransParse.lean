/-
  Soundness of `ServiceProvider.parseResponse` / `parseAssertion` / `parseEncryptedAssertion` as regenerated from the *current*
  service_provider.go (`Generated/Trans.lean`).

  What stays outside the translation — `validateSignature`, `unmarshalElement`, `decryptElement`, `findChildren` — are fields of
  the generated `Env`: arbitrary functions of their arguments (the tree-level model of C01 and the correspondence check say what
  they do; here nothing is assumed about them).

  No piece of the regenerated code is copied here: the join points and initial values of the `do` block are named by
  `extract_lets`, the loop bodies are taken from the regenerated definition by unification (the invariant is carried by
  `forIn_inv`); only `issuer_checked` is stated in the shape `go_inv` gives the Issuer test.
-/
import SamlVerif.Props.TransSP
open SamlVerif SamlVerif.GoSem
namespace SamlVerif.TransSP

/-- what `parseAssertion` establishes about an element `x` and the assertion it returns -/
structure Checked (env : Trans.Env) (sp : Trans.ServiceProvider) (ids : List String) (now : Int) (need : Int)
    (x : Option Element) (a : Trans.Assertion) : Prop where
  unmarshalled : env.unmarshalElement_Assertion x = .ok (a, none)
  signed : need = 0 → env.validateSignature sp x = .ok none
  valid : Trans.validateAssertion env sp (some a) ids now = .ok none

theorem parseAssertion_spec (env : Trans.Env) (sp : Trans.ServiceProvider) (x : Option Element) (ids : List String) (now need : Int)
    (r : Option Trans.Assertion × GoError) (h : Trans.parseAssertion env sp x ids now need = .ok r) (hr : r.2 = none) :
    ∃ a, r.1 = some a ∧ Checked env sp ids now need x a := by
  obtain ⟨ra, re⟩ := r
  cases hr
  unfold Trans.parseAssertion at h
  extract_lets _ tail at h
  simp only [go_inv] at h
  -- with or without the signature check, the run continues with `tail`
  obtain ⟨hs, h⟩ : (need = 0 → env.validateSignature sp x = .ok none) ∧ tail () = .ok (ra, none) := by
    rcases h with ⟨-, e, hs, ⟨hne, -, he⟩ | ⟨rfl, h⟩⟩ | ⟨hn, h⟩
    · exact absurd he hne
    · exact ⟨fun _ => hs, h⟩
    · exact ⟨fun h0 => absurd h0 hn, h⟩
  simp only [tail, go_inv] at h
  obtain ⟨a, ue, hu, ⟨hne, -, he⟩ | ⟨rfl, ve, hv, ⟨hne, -, he⟩ | ⟨rfl, rfl⟩⟩⟩ := h
  · exact absurd he hne
  · exact absurd he hne
  · exact ⟨a, rfl, hu, hs, hv⟩

theorem parseEncryptedAssertion_spec (env : Trans.Env) (sp : Trans.ServiceProvider) (x : Option Element) (ids : List String) (now need : Int)
    (r : Option Trans.Assertion × GoError) (h : Trans.parseEncryptedAssertion env sp x ids now need = .ok r) (hr : r.2 = none) :
    ∃ x' a, env.decryptElement sp x = .ok (x', none) ∧ r.1 = some a ∧ Checked env sp ids now need x' a := by
  unfold Trans.parseEncryptedAssertion at h
  simp only [go_inv] at h
  obtain ⟨x', de, hd, ⟨-, rfl⟩ | ⟨rfl, hp⟩⟩ := h
  · cases hr
  · obtain ⟨a, ha, hc⟩ := parseAssertion_spec env sp x' ids now need r hp hr
    exact ⟨x', a, hd, ha, hc⟩

theorem forIn_inv {α σ : Type} (xs : List α) (B : α → σ → Outcome (ForInStep σ)) (I : σ → Prop)
    (hB : ∀ x ∈ xs, ∀ s, I s → ∀ r, B x s = .ok r → I (match r with | .yield s' => s' | .done s' => s')) :
    ∀ s0, I s0 → ∀ r, forIn xs s0 B = .ok r → I r :=
  GoSem.forIn_inv xs B I hB

/-- where a returned assertion comes from: an `Assertion` child of the Response, or what an `EncryptedAssertion` child decrypts to -/
def Source (env : Trans.Env) (sp : Trans.ServiceProvider) (el : Option Element) (x : Option Element) : Prop :=
  (∃ l, env.findChildren el "urn:oasis:names:tc:SAML:2.0:assertion" "Assertion" = .ok (l, none) ∧ x ∈ l) ∨
  (∃ l e, env.findChildren el "urn:oasis:names:tc:SAML:2.0:assertion" "EncryptedAssertion" = .ok (l, none) ∧ e ∈ l ∧
      env.decryptElement sp e = .ok (x, none))

/-- what `parseResponse` establishes about the Response element before it looks at the assertions -/
structure RespChecked (env : Trans.Env) (sp : Trans.ServiceProvider) (ids : List String) (now : Int) (url : URL)
    (hasSig : Bool) (resp : Trans.Response) : Prop where
  dest : (hasSig = true ∨ resp.Destination ≠ "") → (resp.Destination = url.str ∨ resp.Destination = sp.AcsURL.str)
  reqId : Trans.validateRequestID env sp resp ids = .ok none
  fresh : now ≤ resp.IssueInstant + env.MaxIssueDelay
  issuer : ∀ i, resp.Issuer = some i → ∃ idp, sp.IDPMetadata = some idp ∧ i.Value = idp.EntityID
  status : resp.Status.StatusCode.Value = env.StatusSuccess

/-- a run of `x.Issuer != nil && x.Issuer.Value != sp.IDPMetadata.EntityID`, read backwards, that answered `false` -/
theorem issuer_checked {iss : Option Trans.Issuer} {md : Option Trans.EntityDescriptor} {b : Bool}
    (h : (¬iss = none ∧ ∃ i, iss = some i ∧ ∃ idp, md = some idp ∧ (i.Value != idp.EntityID) = b) ∨ iss = none ∧ false = b)
    (hb : ¬b = true) : ∀ i, iss = some i → ∃ idp, md = some idp ∧ i.Value = idp.EntityID := by
  intro i hi
  rcases h with ⟨-, i', hi', idp, hidp, rfl⟩ | ⟨hn, -⟩
  · cases hi.symm.trans hi'
    exact ⟨idp, hidp, by simpa using hb⟩
  · cases hi.symm.trans hn

/-- for *every* environment: a returned assertion `a` with a nil error means that the Response unmarshalled and passed its own
    checks (`RespChecked`; `rse` is what `validateSignature` said of it when asked), that `a` is what `unmarshalElement` made of an
    element `x` from `Source` — never anything else — on which `validateAssertion` returned nil (`Checked`), and that the
    requirement `need'` handed to the assertions was lifted only by a Response signature that verified -/
theorem parseResponse_sound (env : Trans.Env) (sp : Trans.ServiceProvider) (el : Option Element) (ids : List String) (now need : Int) (url : URL)
    (a : Trans.Assertion) (h : Trans.parseResponse env sp el ids now need url = .ok (some a, none)) :
    ∃ resp rse need' x,
      env.unmarshalElement_Response el = .ok (resp, none) ∧
      (need = 0 → env.validateSignature sp el = .ok rse) ∧ (need ≠ 0 → rse = none) ∧
      RespChecked env sp ids now url (need == 0 && rse != env.errSignatureElementNotPresent) resp ∧
      -- the requirement handed to the assertions: lifted only by a Response signature that verified
      ((need = 0 ∧ rse = none ∧ need' = 1) ∨ (need = 0 ∧ rse ≠ none ∧ rse = env.errSignatureElementNotPresent ∧ need' = 0) ∨ (need ≠ 0 ∧ need' = need)) ∧
      Source env sp el x ∧ Checked env sp ids now need' x a := by
  unfold Trans.parseResponse at h
  -- `sr0 … as0`: initial values of the `let mut`s (`need`, `none`, `false`, `default`, `[]`, `[]`); `sr1`, `sr2`, `rhs1`: the literals
  -- `1`, `0`, `true`; `jpResp`: from `unmarshalElement` on, a function of (responseSignatureErr, responseHasSignature); `jpTail`:
  -- from the first `findChildren` on, a function of signatureRequirement
  extract_lets sr0 rse0 rhs0 resp0 errs0 as0 jpTail sr1 sr2 jpResp rhs1 at h
  have hTail : ∀ need', jpTail () need' = .ok (some a, none) →
      ∃ x, Source env sp el x ∧ Checked env sp ids now need' x a := by
    intro need' ht
    simp only [jpTail, go_inv] at ht
    obtain ⟨encEls, -, hfe, rfl, e1, as1, hl1, plainEls, -, hfa, rfl, e2, as2, hl2, -, -, hb⟩ := ht
    -- both loops only ever append checked assertions
    let I : List GoError × List Trans.Assertion → Prop :=
      fun s => ∀ b ∈ s.2, ∃ x, Source env sp el x ∧ Checked env sp ids now need' x b
    have h1 : I (e1, as1) := by
      refine forIn_inv encEls _ I ?_ _ (fun _ hb => absurd hb List.not_mem_nil) _ hl1
      intro x hx s hs r hr
      simp only [go_inv] at hr
      obtain ⟨o, e, hp, ⟨-, rfl⟩ | ⟨rfl, b, rfl, rfl⟩⟩ := hr
      · exact hs
      · obtain ⟨x', b', hd, hb', hc⟩ := parseEncryptedAssertion_spec env sp x ids now need' _ hp rfl
        cases hb'
        exact List.forall_mem_append.2 ⟨hs, List.forall_mem_singleton.2 ⟨x', .inr ⟨encEls, x, hfe, hx, hd⟩, hc⟩⟩
    have h2 : I (e2, as2) := by
      refine forIn_inv plainEls _ I ?_ _ h1 _ hl2
      intro x hx s hs r hr
      simp only [go_inv] at hr
      obtain ⟨o, e, hp, ⟨-, rfl⟩ | ⟨rfl, b, rfl, rfl⟩⟩ := hr
      · exact hs
      · obtain ⟨b', hb', hc⟩ := parseAssertion_spec env sp x ids now need' _ hp rfl
        cases hb'
        exact List.forall_mem_append.2 ⟨hs, List.forall_mem_singleton.2 ⟨x, .inl ⟨plainEls, hfa, hx⟩, hc⟩⟩
    exact h2 a (List.mem_of_getElem? hb)
  have hResp : ∀ rse hasSig, jpResp () rse hasSig = .ok (some a, none) →
      ∃ resp need', env.unmarshalElement_Response el = .ok (resp, none) ∧ RespChecked env sp ids now url hasSig resp ∧
        ((need = 0 ∧ rse = none ∧ need' = 1) ∨ (need = 0 ∧ rse ≠ none ∧ rse = env.errSignatureElementNotPresent ∧ need' = 0) ∨ (need ≠ 0 ∧ need' = need)) ∧
        ∃ x, Source env sp el x ∧ Checked env sp ids now need' x a := by
    intro rse hasSig hr
    simp only [jpResp, go_inv] at hr
    obtain ⟨resp, -, hu, rfl, hr⟩ := hr
    -- with or without the Destination check, the run continues alike
    have hr : ((hasSig = true ∨ resp.Destination ≠ "") → resp.Destination = url.str ∨ resp.Destination = sp.AcsURL.str) ∧ _ :=
      hr.elim
        (fun ⟨_, c, hd, hc, hmid⟩ => ⟨fun _ => hd.elim (fun h => Or.inr (by simpa [← h.2] using hc)) (fun h => Or.inl h.1), hmid⟩)
        (fun ⟨hc, hmid⟩ => ⟨fun h => absurd h hc, hmid⟩)
    obtain ⟨hdest, -, hv, rfl, hfresh, c, hiss, hc, hst, hneed⟩ := hr
    have hrc : RespChecked env sp ids now url hasSig resp := ⟨hdest, hv, by omega, issuer_checked hiss hc, hst⟩
    rcases hneed with ⟨h0, ⟨rfl, ht⟩ | ⟨hne, hab, ht⟩⟩ | ⟨h0, ht⟩
    · exact ⟨resp, 1, hu, hrc, .inl ⟨h0, rfl, rfl⟩, hTail 1 ht⟩
    · exact ⟨resp, 0, hu, hrc, .inr (.inl ⟨h0, hne, hab, rfl⟩), hTail 0 ht⟩
    · exact ⟨resp, need, hu, hrc, .inr (.inr ⟨h0, rfl⟩), hTail need ht⟩
  simp only [go_inv] at h
  obtain ⟨rse, hs, hn, h⟩ : ∃ rse, (need = 0 → env.validateSignature sp el = .ok rse) ∧ (need ≠ 0 → rse = none) ∧
      jpResp () rse (need == 0 && rse != env.errSignatureElementNotPresent) = .ok (some a, none) := by
    -- signature checked and present / checked and absent / not checked; `simpa` unfolds the named values `rhs1`, `rhs0`, `rse0`
    rcases h with ⟨h0, rse, hs, ⟨hp, h⟩ | ⟨hp, h⟩⟩ | ⟨h0, h⟩
    · exact ⟨rse, fun _ => hs, fun hne => absurd h0 hne, by simpa [show need = 0 from h0, bne_iff_ne.2 hp, rhs1] using h⟩
    · exact ⟨rse, fun _ => hs, fun hne => absurd h0 hne, by simpa [show need = 0 from h0, hp, rhs0] using h⟩
    · exact ⟨none, fun h => absurd h h0, fun _ => rfl, by simpa [beq_eq_false_iff_ne.2 (show need ≠ 0 from h0), rse0, rhs0] using h⟩
  obtain ⟨resp, need', hu, hrc, hnd, x, hsrc, hck⟩ := hResp _ _ h
  exact ⟨resp, rse, need', x, hu, hs, hn, hrc, hnd, hsrc, hck⟩

/-- **C01 (struct level) on the translated code**: with a signature required, a returned assertion is the unmarshalling of an
    element that is a child of the Response (or the decryption of one) and either that element's own signature verified or the
    Response's did. -/
theorem Trans_parseResponse_signed (env : Trans.Env) (sp : Trans.ServiceProvider) (el : Option Element) (ids : List String)
    (now : Int) (url : URL) (a : Trans.Assertion)
    (h : Trans.parseResponse env sp el ids now 0 url = .ok (some a, none)) :
    ∃ x, Source env sp el x ∧ env.unmarshalElement_Assertion x = .ok (a, none) ∧
      (env.validateSignature sp x = .ok none ∨ env.validateSignature sp el = .ok none) ∧
      Trans.validateAssertion env sp (some a) ids now = .ok none := by
  obtain ⟨resp, rse, need', x, _, hs, _, _, hnd, hsrc, hck⟩ := parseResponse_sound env sp el ids now 0 url a h
  refine ⟨x, hsrc, hck.unmarshalled, ?_, hck.valid⟩
  rcases hnd with ⟨_, hr, _⟩ | ⟨_, _, _, hn'⟩ | ⟨hne, _⟩
  · right; rw [hs rfl, hr]
  · left; exact hck.signed hn'
  · exact absurd rfl hne

/-- **C02 / C03 / C04 on the translated code**, response level and assertion level together (no application hooks, IdP
    metadata configured). -/
theorem Trans_parseResponse_checks (env : Trans.Env) (sp : Trans.ServiceProvider) (idp : Trans.EntityDescriptor) (el : Option Element)
    (ids : List String) (now need : Int) (url : URL) (a : Trans.Assertion)
    (hidp : sp.IDPMetadata = some idp) (hv : sp.ValidateAudienceRestriction = none) (hq : sp.ValidateRequestID = none)
    (h : Trans.parseResponse env sp el ids now need url = .ok (some a, none)) :
    ∃ resp, env.unmarshalElement_Response el = .ok (resp, none) ∧
      (resp.Destination ≠ "" → resp.Destination = url.str ∨ resp.Destination = sp.AcsURL.str) ∧
      (sp.AllowIDPInitiated = true ∨ resp.InResponseTo ∈ ids) ∧
      now ≤ resp.IssueInstant + env.MaxIssueDelay ∧
      (∀ i, resp.Issuer = some i → i.Value = idp.EntityID) ∧
      resp.Status.StatusCode.Value = env.StatusSuccess ∧
      now ≤ a.IssueInstant + env.MaxIssueDelay ∧ a.Issuer.Value = idp.EntityID ∧
      (∃ s, a.Subject = some s ∧ ∀ sc ∈ s.SubjectConfirmations, ∃ d, sc.SubjectConfirmationData = some d ∧
          (sp.AllowIDPInitiated = true ∨ d.InResponseTo ∈ ids) ∧ d.Recipient = sp.AcsURL.str ∧
          now ≤ d.NotOnOrAfter + env.MaxClockSkew) ∧
      (∃ c, a.Conditions = some c ∧ c.NotBefore - env.MaxClockSkew ≤ now ∧ now ≤ c.NotOnOrAfter + env.MaxClockSkew ∧
          (c.AudienceRestrictions = [] ∨
            ∃ r ∈ c.AudienceRestrictions, r.Audience.Value = SP.firstSet sp.EntityID sp.MetadataURL.str)) := by
  obtain ⟨resp, rse, need', x, hu, _, _, hrc, _, _, hck⟩ := parseResponse_sound env sp el ids now need url a h
  obtain ⟨h1, h2, h3, h4⟩ := Trans_validateAssertion_sound env sp idp a ids now hidp hv hck.valid
  refine ⟨resp, hu, fun hd => hrc.dest (Or.inr hd), (Trans_validateRequestID_iff env sp resp ids hq).1 hrc.reqId, hrc.fresh, ?_, hrc.status, h1, h2, h3, h4⟩
  intro i hi
  obtain ⟨idp', hidp', hval⟩ := hrc.issuer i hi
  cases hidp.symm.trans hidp'
  exact hval

/-- Destination is mandatory as soon as a required Response signature is present (C03) -/
theorem Trans_parseResponse_destination_when_signed (env : Trans.Env) (sp : Trans.ServiceProvider) (el : Option Element)
    (ids : List String) (now : Int) (url : URL) (a : Trans.Assertion) (e : GoError)
    (hsig : env.validateSignature sp el = .ok e) (hpresent : e ≠ env.errSignatureElementNotPresent)
    (h : Trans.parseResponse env sp el ids now 0 url = .ok (some a, none)) :
    ∃ resp, env.unmarshalElement_Response el = .ok (resp, none) ∧
      (resp.Destination = url.str ∨ resp.Destination = sp.AcsURL.str) := by
  obtain ⟨resp, rse, need', x, hu, hs, _, hrc, _, _, _⟩ := parseResponse_sound env sp el ids now 0 url a h
  cases hsig.symm.trans (hs rfl)
  exact ⟨resp, hu, hrc.dest (Or.inl (by simp [hpresent]))⟩

end SamlVerif.TransSP
