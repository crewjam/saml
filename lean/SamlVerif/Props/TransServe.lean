/-
  Props/TransServe — the gate of `IdentityProvider.ServeSSO` (identity_provider.go), regenerated from the current source up to
  the statement `assertionMaker := idp.AssertionMaker` (`Trans.serveSSOGate`; `NewIdpAuthnRequest`, `IdpAuthnRequest.Validate` and
  the session provider are arbitrary functions; log lines are dropped; the trace ends with the continuation mark exactly when the
  handler goes on to make an assertion).
-/
import SamlVerif.Generated.Trans
import SamlVerif.Proofs.GoInv
open SamlVerif SamlVerif.GoSem
namespace SamlVerif.TransServe

def evBadRequest : Event := ⟨"http.Error", ["StatusBadRequest"]⟩
def evGetSession : Event := ⟨"idp.SessionProvider.GetSession", []⟩
def evContinues : Event := ⟨"(continues)", []⟩
attribute [local simp] evBadRequest evGetSession evContinues

/-- C05 / C06 / C19: an assertion is made only for a request that parsed, that `Validate` accepted, and for which the session
    provider returned a session; a request that does not parse or validate gets exactly one reply (HTTP 400) and the session
    provider is never consulted; without a session nothing is written by this handler (the session provider has answered) -/
theorem serveSSOGate_cases (env : Trans.Env) (idp : Trans.IdentityProvider) (w : ResponseWriter) (r : Option HTTPRequest)
    (tr : List Event) (h : Trans.serveSSOGate env idp w r = .ok tr) :
    (tr = [evBadRequest] ∧
       ((∃ q e, env.NewIdpAuthnRequest (some idp) r = .ok (q, some e)) ∨
        (∃ q e, env.NewIdpAuthnRequest (some idp) r = .ok (some q, none) ∧ env.Validate q = .ok (some e)))) ∨
    (∃ q, env.NewIdpAuthnRequest (some idp) r = .ok (some q, none) ∧ env.Validate q = .ok none ∧
       ((tr = [evGetSession] ∧ env.sessionProviderGetSession idp w r (some q) = .ok none) ∨
        (tr = [evGetSession, evContinues] ∧ ∃ sess, env.sessionProviderGetSession idp w r (some q) = .ok (some sess)))) := by
  unfold Trans.serveSSOGate at h
  simp only [go_inv] at h
  obtain ⟨q?, e, hn, ⟨he, rfl⟩ | ⟨rfl, q, rfl, ve, hv, ⟨he, rfl⟩ | ⟨rfl, so, hs, ⟨rfl, rfl⟩ | ⟨hso, rfl⟩⟩⟩⟩ := h
  · obtain ⟨e, rfl⟩ := Option.ne_none_iff_exists'.1 he
    exact .inl ⟨rfl, .inl ⟨q?, e, hn⟩⟩
  · obtain ⟨e, rfl⟩ := Option.ne_none_iff_exists'.1 he
    exact .inl ⟨rfl, .inr ⟨q, e, hn, hv⟩⟩
  · exact .inr ⟨q, hn, hv, .inl ⟨rfl, hs⟩⟩
  · obtain ⟨sess, rfl⟩ := Option.ne_none_iff_exists'.1 hso
    exact .inr ⟨q, hn, hv, .inr ⟨rfl, sess, hs⟩⟩

/-- an assertion is made only behind all three gates -/
theorem serveSSOGate_continues (env : Trans.Env) (idp : Trans.IdentityProvider) (w : ResponseWriter) (r : Option HTTPRequest)
    (tr : List Event) (h : Trans.serveSSOGate env idp w r = .ok tr) (hc : evContinues ∈ tr) :
    ∃ q sess, env.NewIdpAuthnRequest (some idp) r = .ok (some q, none) ∧ env.Validate q = .ok none ∧
      env.sessionProviderGetSession idp w r (some q) = .ok (some sess) := by
  rcases serveSSOGate_cases env idp w r tr h with ⟨rfl, -⟩ | ⟨q, hn, hv, ⟨rfl, -⟩ | ⟨-, sess, hs⟩⟩
  · simp at hc
  · simp at hc
  · exact ⟨q, sess, hn, hv, hs⟩

def evNotFound : Event := ⟨"http.Error", ["StatusNotFound"]⟩
def evServerError : Event := ⟨"http.Error", ["StatusInternalServerError"]⟩

/-- the gate of `ServeIDPInitiated` (from `session := idp.SessionProvider.GetSession(w, r, req)` up to the endpoint selection; the
    request value under construction is the state): the handler goes on only with a session and with the metadata the registry
    returned, without error, for the service provider that was asked for — which is what the endpoint is then selected from
    (`Props/TransIdpInit`); an unknown provider gets exactly one 404, a failing registry one 500, and without a session this
    handler writes nothing -/
theorem idpInitiatedGate_cases (env : Trans.Env) (idp : Trans.IdentityProvider) (w : ResponseWriter) (r : Option HTTPRequest)
    (spID : String) (req req' : Trans.IdpAuthnRequest) (tr : List Event)
    (h : Trans.idpInitiatedGate env (some idp) w r spID req = .ok (req', tr)) :
    (tr = [evGetSession] ∧ req' = req ∧ env.sessionProviderGetSession idp w r (some req) = .ok none) ∨
    (∃ sess md e, env.sessionProviderGetSession idp w r (some req) = .ok (some sess) ∧
        idp.ServiceProviderProvider.GetServiceProvider r spID = .ok (md, e) ∧
        req' = { req with ServiceProviderMetadata := md } ∧
        ((e = some "os.ErrNotExist" ∧ tr = [evGetSession, evNotFound]) ∨
         (e ≠ some "os.ErrNotExist" ∧ e ≠ none ∧ tr = [evGetSession, evServerError]) ∨
         (e = none ∧ tr = [evGetSession, evContinues]))) := by
  unfold Trans.idpInitiatedGate at h
  simp only [go_inv] at h
  obtain ⟨so, hs, ⟨rfl, rfl, rfl⟩ | ⟨hso, md, e, hg, h⟩⟩ := h
  · exact .inl ⟨rfl, rfl, hs⟩
  obtain ⟨sess, rfl⟩ := Option.ne_none_iff_exists'.1 hso
  refine .inr ⟨sess, md, e, hs, hg, ?_⟩
  obtain ⟨he, rfl, rfl⟩ | ⟨he, ⟨he', rfl, rfl⟩ | ⟨he', rfl, rfl⟩⟩ := h
  · exact ⟨rfl, .inl ⟨he, rfl⟩⟩
  · exact ⟨rfl, .inr (.inl ⟨he, he', rfl⟩)⟩
  · exact ⟨rfl, .inr (.inr ⟨he', rfl⟩)⟩

/-! ### the validity window the IdP writes into `Conditions` (`DefaultAssertionMaker.MakeAssertion`, the statements from
    `notBefore := req.Now.Add(-1 * MaxClockSkew)` up to `nameIDFormat :=`; translated twice, once per yielded local) -/

/-- C06: `Conditions/@NotBefore` is the later of (now − MaxClockSkew) and the request's IssueInstant; `@NotOnOrAfter` is
    MaxIssueDelay after the request's IssueInstant in the second case and after now in the first -/
theorem conditions_window (env : Trans.Env) (req : Trans.IdpAuthnRequest) :
    Trans.conditionsNotBefore env (some req) = .ok (max (req.Now - env.MaxClockSkew) req.Request.IssueInstant, none) ∧
    Trans.conditionsNotOnOrAfter env (some req) =
      .ok (if req.Now - env.MaxClockSkew < req.Request.IssueInstant then req.Request.IssueInstant + env.MaxIssueDelay
           else req.Now + env.MaxIssueDelay, none) := by
  have e : req.Now + -1 * env.MaxClockSkew = req.Now - env.MaxClockSkew := by omega
  simp only [Trans.conditionsNotBefore, Trans.conditionsNotOnOrAfter, deref_some, Outcome.ok_bind', Outcome.pure_eq_ok, e]
  constructor <;> split <;> simp only [Outcome.ok.injEq, Prod.mk.injEq, and_true] <;> omega

/-- "Conditions that open no earlier than MaxClockSkew before issuance" and never later than the later of that and the request -/
theorem conditions_notBefore_bounds (env : Trans.Env) (req : Trans.IdpAuthnRequest) (nb : Int)
    (h : Trans.conditionsNotBefore env (some req) = .ok (nb, none)) :
    req.Now - env.MaxClockSkew ≤ nb ∧ req.Request.IssueInstant ≤ nb ∧
    (nb = req.Now - env.MaxClockSkew ∨ nb = req.Request.IssueInstant) := by
  cases (conditions_window env req).1.symm.trans h
  omega

/-! ### the header of the Response the IdP builds (`IdpAuthnRequest.MakeResponse`, the statement `response := &Response{…}`; the
    nested Issuer and Status literals and the IssueInstant are outside the translation) -/

/-- C06: the Response is addressed to the selected endpoint's location *as the string that was registered* (no parse / print round
    trip), answers the request's own ID, and is version 2.0 -/
theorem responseHeader_fields (env : Trans.Env) (req : Trans.IdpAuthnRequest) (ep : Trans.IndexedEndpoint)
    (hep : req.ACSEndpoint = some ep) :
    ∃ resp, Trans.responseHeader env req = .ok (some resp, none) ∧
      resp.Destination = ep.Location ∧ resp.InResponseTo = req.Request.ID ∧ resp.Version = "2.0" ∧ resp.ID = env.freshID := by
  simp [Trans.responseHeader, hep]

/-- without a selected endpoint `MakeResponse` does not build a Response: it panics on the nil endpoint -/
theorem responseHeader_needs_endpoint (env : Trans.Env) (req : Trans.IdpAuthnRequest) (h : req.ACSEndpoint = none) :
    Trans.responseHeader env req = .panic "nil dereference" := by
  simp [Trans.responseHeader, h]

end SamlVerif.TransServe
