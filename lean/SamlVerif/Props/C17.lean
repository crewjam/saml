/-
  C17 — Middleware login completes only in the browser that started it, at its URL.

  "Through the middleware, with IdP-initiated login disabled, a SAML response establishes a session
   only for a browser that presents the authentic, unexpired tracking cookie of the very request the
   response answers.  That browser is then redirected only to a URL it originally asked for - the one
   recorded in the authentic tracking cookie named by the accompanying RelayState, which is then
   cleared - or to the configured default when no RelayState comes back, never to a caller-chosen
   location, and the session cookie is HttpOnly (and Secure on https deployments).  With RelayState
   echoed faithfully, any interleaving of several pending login flows in one browser completes each
   flow at its own original URL, and a response delivered without, or with only another flow's,
   tracking cookie - or after the tracking lifetime - is refused with no session cookie set."

  The request jar is *any* list of cookies (subset, renaming, tampering, replay are all just lists);
  histories are lists of flows of any length.
-/
import SamlVerif.Model.MwFlow
import SamlVerif.Props.C16
import SamlVerif.Generated.Facts

namespace SamlVerif.MW
open SamlVerif.Jwt

/-- what an accepted tracking token is -/
structure AuthenticTracker (c : Codec) (now : Int) (t : Token) (tr : TrackedRequest) : Prop where
  wf : t.wellFormed = true
  alg : t.alg = c.alg
  mac : t.mac = .by c.keyId c.alg
  marker : t.claims.samlAuthnRequest = true
  aud : t.claims.aud = c.audience
  iss : t.claims.iss = c.issuer
  unexpired : t.claims.exp = 0 ∨ now < t.claims.exp
  content : tr = ⟨t.claims.sub, t.claims.trackedID, t.claims.trackedURI⟩

theorem decodeTracker_sound {c : Codec} {now : Int} {t : Token} {tr : TrackedRequest}
    (h : decodeTracker c now t = .ok tr) : AuthenticTracker c now t tr := by
  obtain ⟨cl, hp, ha, hi, hm, rfl⟩ := decodeTracker_eq_ok.1 h
  obtain ⟨h1, -, h3, h4, h5, rfl⟩ := parse_eq_ok.1 hp
  exact ⟨h1, h3, h4, hm, (audOK_iff.1 ha).1, (issOK_iff.1 hi).1, (claimsValid_iff.1 h5).1, rfl⟩

theorem decodeTracker_complete (c : Codec) (t0 now : Int) (tr : TrackedRequest)
    (haud : c.audience ≠ "") (hiss : c.issuer ≠ "") (hother : c.alg ≠ .other)
    (h1 : t0 ≤ now) (h2 : now < t0 + c.maxAge) :
    decodeTracker c now (encodeTracker c t0 tr) = .ok tr :=
  decodeTracker_eq_ok.2 ⟨_, parse_eq_ok.2 ⟨rfl, hother, rfl, rfl, claimsValid_iff.2 ⟨.inr h2, .inr h1, .inr h1⟩, rfl⟩,
    audOK_iff.2 ⟨rfl, haud⟩, issOK_iff.2 ⟨rfl, hiss⟩, rfl, rfl⟩

/-- after its lifetime a tracking token is worthless (`hne` as in `C16_expired`) -/
theorem decodeTracker_expired (c : Codec) (t0 now : Int) (tr : TrackedRequest) (hne : t0 + c.maxAge ≠ 0)
    (h : t0 + c.maxAge ≤ now) : ∀ tr', decodeTracker c now (encodeTracker c t0 tr) ≠ .ok tr' := by
  intro tr' hd
  rcases (decodeTracker_sound hd).unexpired with h0 | h0
  · exact hne h0
  · exact Int.not_le.2 h0 h

variable {cfg : Cfg} {now : Int} {jar : List Cookie} {resp : SamlResp} {relay : String}

theorem trackedOf_eq_some {c : Cookie} {tr : TrackedRequest} : trackedOf cfg now c = some tr ↔
    c.name = .tracking tr.index ∧ decodeTracker cfg.trackCodec now c.tok = .ok tr := by
  unfold trackedOf
  cases c.name <;> cases decodeTracker cfg.trackCodec now c.tok <;> simp
  -- left (name `.tracking i`, token decodes to `a`): `a = tr → (a.index = i ↔ i = tr.index)`
  rintro rfl
  exact eq_comm

theorem getTrackedRequest_eq_ok {i : String} {tr : TrackedRequest} :
    getTrackedRequest cfg now jar i = .ok tr ↔ ∃ c, jar.find? (fun c => c.name = .tracking i) = some c ∧
      decodeTracker cfg.trackCodec now c.tok = .ok tr ∧ tr.index = i := by
  unfold getTrackedRequest
  cases jar.find? (fun c => c.name = .tracking i) with
  | none => simp
  | some c =>
    cases hd : decodeTracker cfg.trackCodec now c.tok <;> simp [hd, ite_eq_iff']
    -- left (token decodes to `a`): `a.index = i ∧ a = tr ↔ a = tr ∧ tr.index = i`
    exact ⟨fun ⟨h, e⟩ => ⟨e, e ▸ h⟩, fun ⟨e, h⟩ => ⟨e ▸ h, e⟩⟩

/-- `ServeACS` goes on to create a session -/
def Accepts (cfg : Cfg) (now : Int) (jar : List Cookie) (resp : SamlResp) : Prop :=
  resp.valid = true ∧ (cfg.allowIdP = true ∨
    ∃ tr, (∃ c ∈ jar, trackedOf cfg now c = some tr) ∧ tr.samlRequestID = resp.inResponseTo)

/-- the left side negates the first test of `serveACS`, written as the definition has it -/
theorem accepts_iff : ¬ (!(resp.valid && (cfg.allowIdP ||
      (possibleRequestIDs cfg.allowIdP (getTrackedRequests cfg now jar)).contains resp.inResponseTo))) = true ↔
    Accepts cfg now jar resp := by
  rw [Bool.not_eq_true', Bool.not_eq_false]
  cases h : cfg.allowIdP
  · simp [Accepts, possibleRequestIDs, getTrackedRequests, h]
  · simp [Accepts, h]

/-- the one walk through `serveACS`: refusal, or `Accepts` and a redirect that sets the session cookie -/
theorem serveACS_cases (cfg : Cfg) (now : Int) (jar : List Cookie) (resp : SamlResp) (relay : String) :
    serveACS cfg now jar resp relay = forbidden ∨
    Accepts cfg now jar resp ∧ ∃ loc cl,
      serveACS cfg now jar resp relay =
        ⟨302, loc, some (encodeSession cfg.sessCodec (newSession cfg.sessCodec now resp.assertion)),
          true, cfg.https, cl, none⟩ ∧
      ((relay = "" ∧ loc = cfg.defaultURI ∧ cl = []) ∨
       (relay ≠ "" ∧ ∃ tr, getTrackedRequest cfg now jar relay = .ok tr ∧ loc = tr.uri ∧ cl = [relay]) ∨
       cfg.allowIdP = true) := by
  fun_cases serveACS cfg now jar resp relay with
  | case1 | case5 | case6 => exact .inl rfl
  | case2 _ hv _ h0 => exact .inr ⟨accepts_iff.1 hv, _, _, rfl, .inl ⟨h0, rfl, rfl⟩⟩
  | case3 _ hv _ h0 tr hg => exact .inr ⟨accepts_iff.1 hv, _, _, rfl, .inr (.inl ⟨h0, tr, hg, rfl, rfl⟩)⟩
  | case4 _ hv _ _ _ _ hi => exact .inr ⟨accepts_iff.1 hv, _, _, rfl, .inr (.inr hi.2)⟩

theorem serveACS_of_tracked {tr : TrackedRequest} (hacc : Accepts cfg now jar resp) (hr : relay ≠ "")
    (hg : getTrackedRequest cfg now jar relay = .ok tr) :
    serveACS cfg now jar resp relay =
      ⟨302, tr.uri, some (encodeSession cfg.sessCodec (newSession cfg.sessCodec now resp.assertion)),
        true, cfg.https, [relay], none⟩ := by
  unfold serveACS
  simp only [if_neg (accepts_iff.2 hacc), if_neg hr, hg]

/-- **Binding**: a session cookie is set only if the request's own jar holds a cookie that (a) is an
    authentic, unexpired tracking token of this SP, (b) is stored under the name its signed index
    prescribes, and (c) records exactly the request ID the response answers. -/
theorem C17_bound (cfg : Cfg) (now : Int) (jar : List Cookie) (resp : SamlResp) (relay : String)
    (hidp : cfg.allowIdP = false) (s : Token) (h : (serveACS cfg now jar resp relay).session = some s) :
    resp.valid = true ∧
    ∃ c ∈ jar, ∃ tr, c.name = .tracking tr.index ∧ AuthenticTracker cfg.trackCodec now c.tok tr ∧
      tr.samlRequestID = resp.inResponseTo := by
  rcases serveACS_cases cfg now jar resp relay with hf | ⟨hacc, -⟩
  · rw [hf] at h
    cases h
  · obtain ⟨tr, ⟨c, hc, hto⟩, hid⟩ := hacc.2.resolve_left (by simp [hidp])
    obtain ⟨hn, hd⟩ := trackedOf_eq_some.1 hto
    exact ⟨hacc.1, c, hc, tr, hn, decodeTracker_sound hd, hid⟩

/-- **Refusal**: without a matching authentic tracking cookie — none at all, only other flows', forged,
    renamed or expired ones — the response is refused and no session cookie is set. -/
theorem C17_refuse (cfg : Cfg) (now : Int) (jar : List Cookie) (resp : SamlResp) (relay : String)
    (hidp : cfg.allowIdP = false)
    (h : ∀ c ∈ jar, ∀ tr, trackedOf cfg now c = some tr → tr.samlRequestID ≠ resp.inResponseTo) :
    serveACS cfg now jar resp relay = forbidden := by
  rcases serveACS_cases cfg now jar resp relay with hf | ⟨hacc, -⟩
  · exact hf
  · obtain ⟨tr, ⟨c, hc, hto⟩, hid⟩ := hacc.2.resolve_left (by simp [hidp])
    exact absurd hid (h c hc tr hto)

/-- **Redirect target and clearing**: on success the Location is the default (no RelayState) or the
    URI recorded in the authentic tracking cookie named by RelayState, which this reply clears —
    never any other request data. -/
theorem C17_redirect (cfg : Cfg) (now : Int) (jar : List Cookie) (resp : SamlResp) (relay : String)
    (hidp : cfg.allowIdP = false) (h : (serveACS cfg now jar resp relay).status = 302) :
    (relay = "" ∧ (serveACS cfg now jar resp relay).location = cfg.defaultURI ∧
        (serveACS cfg now jar resp relay).cleared = []) ∨
    (relay ≠ "" ∧ ∃ c ∈ jar, ∃ tr, c.name = .tracking relay ∧ tr.index = relay ∧
        AuthenticTracker cfg.trackCodec now c.tok tr ∧
        (serveACS cfg now jar resp relay).location = tr.uri ∧
        (serveACS cfg now jar resp relay).cleared = [relay]) := by
  rcases serveACS_cases cfg now jar resp relay with hf | ⟨-, loc, cl, hr, ht⟩
  · rw [hf] at h
    cases h
  · rw [hr]
    rcases ht with ⟨h0, rfl, rfl⟩ | ⟨h0, tr, hg, rfl, rfl⟩ | hi
    · exact .inl ⟨h0, rfl, rfl⟩
    · obtain ⟨c, hf, hd, hi⟩ := getTrackedRequest_eq_ok.1 hg
      exact .inr ⟨h0, c, List.mem_of_find?_eq_some hf, tr, by simpa using List.find?_some hf, hi,
        decodeTracker_sound hd, rfl, rfl⟩
    · simp [hidp] at hi

/-- **Cookie flags**: the session cookie is HttpOnly, and Secure on https deployments. -/
theorem C17_flags (cfg : Cfg) (now : Int) (jar : List Cookie) (resp : SamlResp) (relay : String) (s : Token)
    (h : (serveACS cfg now jar resp relay).session = some s) :
    (serveACS cfg now jar resp relay).httpOnly = true ∧ (serveACS cfg now jar resp relay).secure = cfg.https := by
  rcases serveACS_cases cfg now jar resp relay with hf | ⟨-, loc, cl, hr, -⟩
  · rw [hf] at h
    cases h
  · rw [hr]
    exact ⟨rfl, rfl⟩

/-- a login flow the browser started: index (= RelayState), request ID, original URL, start time -/
structure Flow where
  index : String
  id : String
  uri : String
  t0 : Int
  deriving DecidableEq, Repr

def flowCookie (cfg : Cfg) (f : Flow) : Cookie :=
  ⟨.tracking f.index, encodeTracker cfg.trackCodec f.t0 ⟨f.index, f.id, f.uri⟩⟩

/-- codec sanity (true of every `samlsp.New` deployment) -/
structure CodecOK (c : Codec) : Prop where
  aud : c.audience ≠ ""
  iss : c.issuer ≠ ""
  alg : c.alg ≠ .other

/-- the flow is pending at `now`: started, not yet past the tracking lifetime -/
def Pending (cfg : Cfg) (now : Int) (f : Flow) : Prop :=
  f.t0 ≠ 0 ∧ f.t0 ≤ now ∧ now < f.t0 + cfg.trackCodec.maxAge

/-- **One flow among many**: in a jar with unique cookie names that contains the cookie of a pending
    flow `f` — next to any number of other cookies, pending flows included — the response answering
    `f`, delivered with `f`'s RelayState, is accepted, sets a session, redirects to `f`'s own URL and
    clears exactly `f`'s tracking cookie. -/
theorem C17_completes (cfg : Cfg) (now : Int) (jar : List Cookie) (f : Flow) (a : AssertionA)
    (hc : CodecOK cfg.trackCodec) (hp : Pending cfg now f) (hidx : f.index ≠ "")
    (hmem : flowCookie cfg f ∈ jar)
    (huniq : ∀ c ∈ jar, c.name = .tracking f.index → c = flowCookie cfg f) :
    serveACS cfg now jar ⟨true, f.id, a⟩ f.index =
      ⟨302, f.uri, some (encodeSession cfg.sessCodec (newSession cfg.sessCodec now a)),
        true, cfg.https, [f.index], none⟩ := by
  have hd : decodeTracker cfg.trackCodec now (flowCookie cfg f).tok = .ok ⟨f.index, f.id, f.uri⟩ :=
    decodeTracker_complete _ _ _ _ hc.aud hc.iss hc.alg hp.2.1 hp.2.2
  have hacc : Accepts cfg now jar ⟨true, f.id, a⟩ :=
    ⟨rfl, .inr ⟨_, ⟨_, hmem, trackedOf_eq_some.2 ⟨rfl, hd⟩⟩, rfl⟩⟩
  refine serveACS_of_tracked hacc hidx (getTrackedRequest_eq_ok.2 ⟨_, ?_, hd, rfl⟩)
  cases hf : jar.find? (fun c => c.name = .tracking f.index) with
  | none => simpa [flowCookie] using List.find?_eq_none.1 hf _ hmem
  | some c => rw [huniq c (List.mem_of_find?_eq_some hf) (by simpa using List.find?_some hf)]

theorem mem_applyReply_tracking {jar : List Cookie} {r : Reply} {c : Cookie} {i : String}
    (ht : r.tracked = none) (hn : c.name = .tracking i) :
    c ∈ applyReply jar r ↔ c ∈ jar ∧ i ∉ r.cleared := by
  unfold applyReply
  cases r.session <;> simp [ht, hn]
  -- left (the reply sets a session cookie): `c` is not that cookie, its name being a tracking name
  rintro rfl
  cases hn

def completeAll (cfg : Cfg) (now : Int) (a : AssertionA) : List Cookie → List Flow → List Reply
  | _, [] => []
  | jar, f :: rest =>
    let r := serveACS cfg now jar ⟨true, f.id, a⟩ f.index
    r :: completeAll cfg now a (applyReply jar r) rest

def AllComplete : List Reply → List Flow → Prop
  | [], [] => True
  | r :: rs, f :: fs => (r.status = 302 ∧ r.location = f.uri ∧ r.session.isSome = true) ∧ AllComplete rs fs
  | _, _ => False

/-- **Any interleaving**: deliver the responses of pending flows with distinct indexes in *any* order
    (the list `order`), applying each reply to the browser's jar: every one of them completes at its
    own URL.  By induction over the order, for any number of flows. -/
theorem C17_interleave (cfg : Cfg) (now : Int) (a : AssertionA) (hc : CodecOK cfg.trackCodec)
    (order : List Flow) (jar : List Cookie)
    (hpend : ∀ f ∈ order, Pending cfg now f ∧ f.index ≠ "")
    (hdistinct : order.Pairwise (fun f g => f.index ≠ g.index))
    (hjar : ∀ f ∈ order, flowCookie cfg f ∈ jar ∧ ∀ c ∈ jar, c.name = .tracking f.index → c = flowCookie cfg f) :
    AllComplete (completeAll cfg now a jar order) order := by
  induction order generalizing jar with
  | nil => simp [completeAll, AllComplete]
  | cons f rest ih =>
    obtain ⟨hdf, hdr⟩ := List.pairwise_cons.1 hdistinct
    obtain ⟨hf, hpend⟩ := List.forall_mem_cons.1 hpend
    obtain ⟨hj, hjar⟩ := List.forall_mem_cons.1 hjar
    rw [completeAll, C17_completes cfg now jar f a hc hf.1 hf.2 hj.1 hj.2]
    refine ⟨⟨rfl, rfl, rfl⟩, ih _ hpend hdr fun g hg => ?_⟩
    -- the reply clears `f`'s cookie only: `g`'s is still there, and still the only one of its name
    obtain ⟨hgm, hgu⟩ := hjar g hg
    have hne : g.index ∉ [f.index] := by simpa using (hdf g hg).symm
    exact ⟨(mem_applyReply_tracking rfl rfl).2 ⟨hgm, hne⟩,
      fun c hcm hcn => hgu c ((mem_applyReply_tracking rfl hcn).1 hcm).1 hcn⟩

/-- the tracking lifetime is the response-freshness tolerance: the default tracker and its codec both
    take `MaxAge` from `saml.MaxIssueDelay` -/
theorem C17_lifetime :
    Facts.trackerMaxAge = [("DefaultTrackedRequestCodec", "saml.MaxIssueDelay"), ("DefaultRequestTracker", "saml.MaxIssueDelay")] :=
  rfl

/-- the tracking cookie is written with the literal `HttpOnly: true`; the session cookie takes the
    provider's field, which `DefaultSessionProvider` sets to `true` (checked dynamically by the harness) -/
theorem C17_httponly_literals :
    ("request_tracker_cookie.go", "true") ∈ Facts.cookieHttpOnly ∧ ("session_cookie.go", "c.HTTPOnly") ∈ Facts.cookieHttpOnly := by
  simp [Facts.cookieHttpOnly]

def exCfg : Cfg := ⟨⟨.rs256, 1, "https://sp/", "https://sp/", 90⟩, ⟨.rs256, 1, "https://sp/", "https://sp/", 3600⟩, "/", false, true⟩
def fA : Flow := ⟨"ia", "id-a", "/a", 1000⟩
def fB : Flow := ⟨"ib", "id-b", "/b?x=1", 1010⟩

example : (completeAll exCfg 1050 ⟨some "u", [], []⟩ [flowCookie exCfg fA, flowCookie exCfg fB] [fB, fA]).map
    (fun r => (r.status, r.location)) = [(302, "/b?x=1"), (302, "/a")] := by decide +kernel
example : serveACS exCfg 1050 [flowCookie exCfg fB] ⟨true, "id-a", ⟨some "u", [], []⟩⟩ "ib" = forbidden := by decide +kernel
example : serveACS exCfg 1095 [flowCookie exCfg fA] ⟨true, "id-a", ⟨some "u", [], []⟩⟩ "ia" = forbidden := by decide +kernel

end SamlVerif.MW
