/-
  C01 — the SP returns an assertion only if a trusted IdP key signed its content.

  Model: `Tree.parseT` (Model/SPTree.lean) — ParseXMLResponse over the parsed document with symbolic
  cryptography (ledger).  What is proved, for every document tree, every ledger, every configuration
  and every struct view:

  * `C01_valid_is_signed`: passing `validateSignature` means: a certificate from the SP's configured
    roots signed (ledger) the canonical SignedInfo of a ds:Signature element inside the element, that
    Signature is the element's only ds:Signature child or precedes it in document order, one of its
    references points at the element, and the digest token of the reference used stands (ledger) for
    the canonical form of the element with that Signature removed;
  * `C01_no_forgery`: if trusted keys only ever signed references to honest contents `H`, the canonical
    form of what was verified is in `H`.

  Not proved here (trusted base, exercised by the correspondence and the direct oracle): that the
  struct view of an element is a function of its canonical form without the removed Signature
  (encoding/xml and elementToBytes), XML tokenisation, and the cryptographic primitives.
-/
import SamlVerif.Model.SPTree
import SamlVerif.Proofs.SPStruct
import SamlVerif.Proofs.Tree
import SamlVerif.Generated.Facts

namespace SamlVerif.Tree

/-! ### trust roots -/

def configured (t : Trust) (k : String) : Prop :=
  match t with
  | .metadata kds => ∃ kd ∈ kds, (kd.1 = "" ∨ kd.1 = "signing") ∧ k ∈ kd.2
  | .pinned c => k = c
  | .fingerprint c => k = c
  | .misconfigured => False

theorem metadataRoots_eq_some (kds : List (String × List String)) (roots : List String)
    (h : metadataRoots kds = some roots) :
    roots = (kds.filter (fun kd => kd.1 = "" ∨ kd.1 = "signing")).flatMap (·.2) ∧ badCert ∉ roots := by
  simp only [metadataRoots, Option.ite_none_left_eq_some, Option.some.injEq] at h
  obtain ⟨_, hbad, rfl⟩ := h
  exact ⟨rfl, fun hm => hbad (List.any_eq_true.mpr ⟨_, hm, decide_eq_true rfl⟩)⟩

theorem fingerprintRoots_eq_some (c : String) (el : Node) (roots : List String)
    (h : fingerprintRoots c el = some roots) : roots = [c] ∧ c ≠ badCert := by
  revert h
  fun_cases fingerprintRoots c el
  case case2 hk =>
    rintro ⟨⟩
    exact ⟨hk.2 ▸ rfl, hk.2 ▸ hk.1⟩
  all_goals nofun

/-- the roots are certificates of the IdP metadata with use "signing" or none, or the pinned
    certificate, or the certificate whose fingerprint is configured — never a certificate taken from
    the message alone -/
theorem C01_roots_from_configuration (t : Trust) (el : Node) (roots : List String) (k : String)
    (h : trustRoots t el = some roots) (hk : k ∈ roots) : configured t k ∧ k ≠ badCert := by
  cases t with
  | metadata kds =>
    obtain ⟨rfl, hbad⟩ := metadataRoots_eq_some kds roots h
    obtain ⟨kd, hkd, hmem⟩ := List.mem_flatMap.mp hk
    obtain ⟨hkd, huse⟩ := List.mem_filter.mp hkd
    exact ⟨⟨kd, hkd, of_decide_eq_true huse, hmem⟩, fun hb => hbad (hb ▸ hk)⟩
  | pinned c =>
    simp only [trustRoots, Option.ite_none_left_eq_some, Option.some.injEq] at h
    obtain ⟨hc, rfl⟩ := h
    cases List.mem_singleton.mp hk
    exact ⟨rfl, hc⟩
  | fingerprint c =>
    obtain ⟨rfl, hc⟩ := fingerprintRoots_eq_some c el roots h
    cases List.mem_singleton.mp hk
    exact ⟨rfl, hc⟩
  | misconfigured => cases h

/-- an encryption-use certificate is never a root on its own account -/
theorem C01_encryption_use_not_trusted (kds : List (String × List String)) (el : Node) (roots : List String)
    (k : String) (h : trustRoots (.metadata kds) el = some roots) (hk : k ∈ roots) :
    ∃ kd ∈ kds, kd.1 ≠ "encryption" ∧ k ∈ kd.2 := by
  obtain ⟨⟨kd, hkd, huse, hmem⟩, _⟩ := C01_roots_from_configuration _ _ _ _ h hk
  refine ⟨kd, hkd, ?_, hmem⟩
  rcases huse with h | h <;> simp [h]

/-! ### what "valid" establishes -/

theorem chooseCert_mem (roots : List String) (v : SigView) (k : String) (h : chooseCert roots v = some k) :
    k ∈ roots := by
  revert h
  fun_cases chooseCert roots v
  case case1 _ _ hc =>
    rintro ⟨⟩
    exact List.contains_iff_mem.mp hc
  all_goals nofun

theorem pickRef_mem (idAttr : String) (refs : List RefView) (r : RefView) (h : pickRef idAttr refs = some r) :
    r ∈ refs ∧ ∃ r' ∈ refs, refMatches idAttr r' = true := by
  simp only [pickRef, Option.ite_none_right_eq_some] at h
  exact ⟨List.mem_of_getLast? h.2, by simpa using h.1⟩

/-- **what goxmldsig establishes**: a root certificate signed the canonical SignedInfo of the chosen
    Signature; the reference used carries a digest token that stands for the canonical form of the
    element without that Signature; some reference of that SignedInfo points at the element. -/
theorem dsigValidate_sound (inp : Input) (roots : List String) (ctx : NSCtx) (el : Node) (stripped : Option Nat)
    (ev : Evidence) (h : dsigValidate inp roots ctx el stripped = some ev) :
    ev.cert ∈ roots ∧
    (ev.sigTok, ev.cert, ev.siCanon) ∈ inp.ledger.sigs ∧
    (ev.ref.digestTok, ev.content) ∈ inp.ledger.digests ∧
    canonNode ctx (removeNid ev.sigNid el) = some ev.content ∧
    ev.ref ∈ ev.view.refs ∧
    (∃ r ∈ ev.view.refs, refMatches ((el.selectAttr "ID").getD "") r = true) ∧
    ev.ref.transforms = [envelopedAlg, excC14n] ∧
    (∃ sigEl ∈ elems el, sigEl.nid = ev.sigNid) := by
  unfold dsigValidate at h
  split at h
  · rename_i nid v0 c _
    -- `checkPicked` answers `some` on one path only
    revert h
    fun_cases checkPicked inp roots ctx el nid (viewAfterStrip stripped nid v0) c
    case case5 cert hcert ref href hc ht content st hst hcanon sigEl hsig si hsi hs hd =>
      rintro ⟨⟩
      exact ⟨chooseCert_mem _ _ _ hcert, by simpa using hs, by simpa using hd, hcanon, (pickRef_mem _ _ _ href).1,
        (pickRef_mem _ _ _ href).2, by simpa using ht, sigEl, List.mem_of_find?_eq_some hsig,
        by simpa using List.find?_some hsig⟩
    all_goals nofun
  · cases h

/-- the element has exactly one ds:Signature child (service_provider.go's own requirement) -/
def HasUniqueDirectSignature (ctx : NSCtx) (el : Node) : Prop :=
  ∃ cin s, subContext ctx el.attrs = some cin ∧ findChildren cin dsigNS "Signature" el.children = some [s]

theorem sigStateT_valid_iff (inp : Input) (ctx : NSCtx) (el : Node) :
    sigStateT inp ctx el = .valid ↔
      HasUniqueDirectSignature ctx el ∧
      ∃ roots ev, trustRoots inp.trust el = some roots ∧
        dsigValidate inp roots ctx (stripKeyInfo el).1 (stripKeyInfo el).2 = some ev := by
  constructor
  · fun_cases sigStateT inp ctx el
    case case5 cin hcin s hf roots hr _ _ hst ev hev =>
      exact fun _ => ⟨⟨cin, s, hcin, hf⟩, roots, ev, hr, hst ▸ hev⟩
    all_goals nofun
  · rintro ⟨⟨cin, s, hc, hf⟩, roots, ev, hr, hv⟩
    simp only [sigStateT, hc, hf, hr, hv]

/-- **C01 (valid is signed)** -/
theorem C01_valid_is_signed (inp : Input) (ctx : NSCtx) (el : Node) (h : sigStateT inp ctx el = .valid) :
    HasUniqueDirectSignature ctx el ∧
    ∃ roots ev, trustRoots inp.trust el = some roots ∧
      dsigValidate inp roots ctx (stripKeyInfo el).1 (stripKeyInfo el).2 = some ev :=
  (sigStateT_valid_iff inp ctx el).mp h

/-- "a trusted key signed a commitment to this content" -/
def SignedByTrusted (inp : Input) (el : Node) (content : String) : Prop :=
  ∃ k st si d, configured inp.trust k ∧ (st, k, si) ∈ inp.ledger.sigs ∧ (d, content) ∈ inp.ledger.digests

theorem C01_valid_content_signed (inp : Input) (ctx : NSCtx) (el : Node) (h : sigStateT inp ctx el = .valid) :
    ∃ ev : Evidence,
      configured inp.trust ev.cert ∧
      (ev.sigTok, ev.cert, ev.siCanon) ∈ inp.ledger.sigs ∧
      (ev.ref.digestTok, ev.content) ∈ inp.ledger.digests ∧
      ev.ref ∈ ev.view.refs ∧
      canonNode ctx (removeNid ev.sigNid (stripKeyInfo el).1) = some ev.content := by
  obtain ⟨_, roots, ev, hroots, hev⟩ := C01_valid_is_signed inp ctx el h
  obtain ⟨h1, h2, h3, h4, h5, _, _, _⟩ := dsigValidate_sound _ _ _ _ _ _ hev
  exact ⟨ev, (C01_roots_from_configuration _ _ _ _ hroots h1).1, h2, h3, h5, h4⟩

/-! ### soundness of the parse -/

/-- the assertion-bearing children of the root as the parse sees them -/
def entriesOf (inp : Input) (cin : NSCtx) (encs plains : List Node) : List SP.Entry :=
  encs.map (encEntry inp) ++ plains.map (plainEntry inp cin)

theorem findChildren_eq_some (ctx : NSCtx) (ns tag : String) (l out : List Node)
    (h : findChildren ctx ns tag l = some out) :
    out = l.filter fun c => (c.isElem ∧ c.tag = tag) ∧ (resolveElem ctx c).map (·.2) = some ns := by
  fun_induction findChildren ctx ns tag l generalizing out with
  | case1 => cases h; rfl
  | case2 => cases h
  | case3 => cases h
  | case4 c rest hc _ cns hres l' hl' ih =>
    cases h
    cases ih l' hl'
    simp only [List.filter_cons, hc, hres, Option.map_some, Option.some.injEq, true_and, decide_eq_true_eq]
  | case5 c rest hc ih =>
    cases ih out h
    simp only [List.filter_cons, hc, false_and, decide_false, Bool.false_eq_true, if_false]

theorem plainEntry_of_ne_encBad (inp : Input) (cin : NSCtx) (el : Node) (h : (plainEntry inp cin el).wrap ≠ .encBad) :
    inp.aview el.nid = some (plainEntry inp cin el).a ∧ (plainEntry inp cin el).sig = sigStateT inp cin el := by
  unfold plainEntry at h ⊢
  split <;> simp_all

theorem encEntry_of_ne_encBad (inp : Input) (enc : Node) (h : (encEntry inp enc).wrap ≠ .encBad) :
    ∃ p, inp.plain enc.nid = some p ∧ inp.aview p.nid = some (encEntry inp enc).a ∧
      (encEntry inp enc).sig = sigStateT inp defaultCtx p := by
  unfold encEntry at h ⊢
  split
  · simp_all
  · split <;> simp_all

/-- where a returned assertion can come from, relative to the Response element `resp`; `outerValid`:
    a signature further out (the Response's, the ArtifactResponse's) lifted the requirement -/
def FromResponse (inp : Input) (ctx : NSCtx) (resp : Node) (a : SP.AssertionS) (outerValid : Prop) : Prop :=
  ∃ cin, subContext ctx resp.attrs = some cin ∧
    ((∃ el ∈ resp.children, el.tag = "Assertion" ∧ inp.aview el.nid = some a ∧
        (sigStateT inp cin el = .valid ∨ outerValid)) ∨
     (∃ enc ∈ resp.children, enc.tag = "EncryptedAssertion" ∧ ∃ p, inp.plain enc.nid = some p ∧
        inp.aview p.nid = some a ∧ (sigStateT inp defaultCtx p = .valid ∨ outerValid)))

theorem FromResponse.mono {inp ctx resp a} {p q : Prop} :
    FromResponse inp ctx resp a p → (p → q) → FromResponse inp ctx resp a q
  | ⟨cin, hcin, .inl ⟨el, hm, ht, hav, hs⟩⟩, hpq => ⟨cin, hcin, .inl ⟨el, hm, ht, hav, hs.imp_right hpq⟩⟩
  | ⟨cin, hcin, .inr ⟨enc, hm, ht, x, hp, hav, hs⟩⟩, hpq => ⟨cin, hcin, .inr ⟨enc, hm, ht, x, hp, hav, hs.imp_right hpq⟩⟩

theorem FromResponse.of_entry {inp ctx resp es e} {outerValid : Prop} (hes : entriesT inp ctx resp = some es)
    (hm : e ∈ es) (hw : e.wrap ≠ .encBad) (hs : e.sig = .valid ∨ outerValid) :
    FromResponse inp ctx resp e.a outerValid := by
  revert hes
  fun_cases entriesT inp ctx resp
  case case2 cin hcin encs plains hplains hencs =>
    rintro ⟨⟩
    cases findChildren_eq_some _ _ _ _ _ hencs
    cases findChildren_eq_some _ _ _ _ _ hplains
    simp only [List.mem_append, List.mem_map, List.mem_filter, decide_eq_true_eq] at hm
    refine ⟨cin, hcin, ?_⟩
    rcases hm with ⟨enc, ⟨hm, ⟨_, ht⟩, _⟩, rfl⟩ | ⟨el, ⟨hm, ⟨_, ht⟩, _⟩, rfl⟩
    · obtain ⟨p, hp, hav, hsig⟩ := encEntry_of_ne_encBad inp enc hw
      exact .inr ⟨enc, hm, ht, p, hp, hav, hsig ▸ hs⟩
    · obtain ⟨hav, hsig⟩ := plainEntry_of_ne_encBad inp cin el hw
      exact .inl ⟨el, hm, ht, hav, hsig ▸ hs⟩
  all_goals nofun

/-- the struct-level validator over the entries of a Response element: an accepted assertion is the
    view of an assertion child (or decrypted child), signed itself unless the requirement was lifted -/
theorem response_sound (inp : Input) (ctx : NSCtx) (resp : Node) (es : List SP.Entry) (hdr : SP.ResponseS)
    (need : SP.Need) (respSig : SP.SigState) (a : SP.AssertionS)
    (hes : entriesT inp ctx resp = some es)
    (h : SP.parseResponse inp.cfg inp.now inp.ids inp.url need respSig { hdr with entries := es } = .ok a) :
    FromResponse inp ctx resp a (SP.needAfter need respSig = .notRequired) := by
  obtain ⟨e, hm, hg, rfl⟩ := (SP.accept_sound h).2
  refine .of_entry hes hm hg.decrypts ?_
  cases hn : SP.needAfter need respSig with
  | notRequired => exact .inr rfl
  | required => exact .inl (hg.signed hn)

/-- **C01 (soundness)**: if the SP returns `a`, then `a` is the struct view of an element `E` that is
    a `saml:Assertion` child of the root or the decrypted content of a `saml:EncryptedAssertion` child of
    the root, and `validateSignature` passed on `E` itself or on the root. -/
theorem C01_sound (inp : Input) (a : SP.AssertionS) (h : parseT inp = .ok a) :
    inp.wellFormed = true ∧
    ∃ cin, subContext defaultCtx inp.root.attrs = some cin ∧
    ((∃ el ∈ inp.root.children, el.tag = "Assertion" ∧ inp.aview el.nid = some a ∧
        (sigStateT inp cin el = .valid ∨ sigStateT inp defaultCtx inp.root = .valid)) ∨
     (∃ enc ∈ inp.root.children, enc.tag = "EncryptedAssertion" ∧ ∃ p, inp.plain enc.nid = some p ∧
        inp.aview p.nid = some a ∧
        (sigStateT inp defaultCtx p = .valid ∨ sigStateT inp defaultCtx inp.root = .valid))) := by
  revert h
  fun_cases parseT inp
  case case4 hwf _ _ hdr _ es hes =>
    intro h
    -- the statement is `FromResponse inp defaultCtx inp.root a (root signature valid)` written out
    exact ⟨by simpa using hwf, (response_sound inp _ _ es hdr .required _ a hes h).mono fun hn =>
      (SP.needAfter_eq_notRequired_iff.mp hn).resolve_left nofun⟩
  all_goals nofun

theorem exactlyOne_eq_some (l : Option (List Node)) (x : Node) : exactlyOne l = some x ↔ l = some [x] := by
  unfold exactlyOne
  split <;> simp_all

/-- **C01 (soundness, artifact binding)**: an assertion returned by `ParseXMLArtifactResponse` is the
    view of an assertion child (or decrypted child) of the one `samlp:Response` child of the one
    `samlp:ArtifactResponse` in the one SOAP `Body`, and `validateSignature` passed on the assertion, on
    that Response, or on that ArtifactResponse. -/
theorem C01_sound_artifact (inp : Input) (resolveId : String) (a : SP.AssertionS)
    (h : parseArtifactT inp resolveId = .ok a) :
    ∃ cRoot body cBody art cArt resp,
      subContext defaultCtx inp.root.attrs = some cRoot ∧
      findChildren cRoot soapNS "Body" inp.root.children = some [body] ∧
      subContext cRoot body.attrs = some cBody ∧
      findChildren cBody samlpNS "ArtifactResponse" body.children = some [art] ∧
      subContext cBody art.attrs = some cArt ∧
      findChildren cArt samlpNS "Response" art.children = some [resp] ∧
      FromResponse inp cArt resp a (sigStateT inp cArt resp = .valid ∨ sigStateT inp cBody art = .valid) := by
  revert h
  fun_cases parseArtifactT inp resolveId
  case case9 _ _ _ cRoot hcRoot body hbody cBody hcBody art hart irt ii iss st _ asig found =>
    intro h
    obtain ⟨_, _, _, _, _, rs, r, hresp, hparse⟩ := (SP.artifact_accept_iff ..).mp h
    -- `found` is `some` only if each of the three lookups for the Response succeeded
    simp only [found] at hresp
    split at hresp
    · cases hresp
    rename_i cArt hcArt
    split at hresp
    · cases hresp
    rename_i resp hone
    split at hresp
    case h_2 => cases hresp
    rename_i hdr es _ hes
    cases hresp
    rw [exactlyOne_eq_some] at hbody hart hone
    refine ⟨cRoot, body, cBody, art, cArt, resp, hcRoot, hbody, hcBody, hart, hcArt, hone,
      (response_sound inp cArt resp es hdr _ _ a hes hparse).mono fun hn => ?_⟩
    -- the requirement was lifted by the Response's own signature or by the ArtifactResponse's
    exact (SP.needAfter_eq_notRequired_iff.mp hn).symm.imp_right fun hi => by simpa using hi
  all_goals nofun

/-! ### no forgery -/

/-- the ledger is honest for this configuration: whenever a configured certificate's key signed a
    SignedInfo and a digest token stands for some content, and that SignedInfo refers to that token
    (the view of the Signature is what the SignedInfo says), the content is one of the honest ones.
    This is unforgeability of the signature scheme plus collision resistance of the digest, stated on
    the symbolic ledger. -/
def HonestLedger (inp : Input) (H : String → Prop) : Prop :=
  ∀ ev : Evidence, configured inp.trust ev.cert → (ev.sigTok, ev.cert, ev.siCanon) ∈ inp.ledger.sigs →
    (ev.ref.digestTok, ev.content) ∈ inp.ledger.digests → ev.ref ∈ ev.view.refs → H ev.content

/-- **C01 (no forgery)**: whatever passes `validateSignature` is, in canonical form and without the
    Signature that vouches for it, one of the honest contents. -/
theorem C01_verified_is_honest (inp : Input) (H : String → Prop) (hh : HonestLedger inp H) (ctx : NSCtx) (el : Node)
    (h : sigStateT inp ctx el = .valid) :
    ∃ nid content, canonNode ctx (removeNid nid (stripKeyInfo el).1) = some content ∧ H content := by
  obtain ⟨ev, h1, h2, h3, h4, h5⟩ := C01_valid_content_signed inp ctx el h
  exact ⟨ev.sigNid, ev.content, h5, hh ev h1 h2 h3 h4⟩

/-- **C01**: a returned assertion is the view of an element that is honest content itself, or a child
    (or decrypted child) of a root that is honest content. -/
theorem C01_no_forgery (inp : Input) (H : String → Prop) (hh : HonestLedger inp H) (a : SP.AssertionS)
    (h : parseT inp = .ok a) :
    ∃ cin V ctxV, subContext defaultCtx inp.root.attrs = some cin ∧
      (∃ nid content, canonNode ctxV (removeNid nid (stripKeyInfo V).1) = some content ∧ H content) ∧
      ((inp.aview V.nid = some a ∧ (V ∈ inp.root.children ∨ ∃ enc ∈ inp.root.children, inp.plain enc.nid = some V)) ∨
       (V = inp.root ∧ ((∃ el ∈ inp.root.children, el.tag = "Assertion" ∧ inp.aview el.nid = some a) ∨
                        (∃ enc ∈ inp.root.children, enc.tag = "EncryptedAssertion" ∧ ∃ p, inp.plain enc.nid = some p ∧ inp.aview p.nid = some a)))) := by
  obtain ⟨_, cin, hcin, hcase⟩ := C01_sound inp a h
  have honest := C01_verified_is_honest inp H hh
  rcases hcase with ⟨el, hm, ht, hav, hs | hs⟩ | ⟨enc, hm, ht, p, hp, hav, hs | hs⟩
  · exact ⟨cin, el, cin, hcin, honest _ _ hs, .inl ⟨hav, .inl hm⟩⟩
  · exact ⟨cin, inp.root, defaultCtx, hcin, honest _ _ hs, .inr ⟨rfl, .inl ⟨el, hm, ht, hav⟩⟩⟩
  · exact ⟨cin, p, defaultCtx, hcin, honest _ _ hs, .inl ⟨hav, .inr ⟨enc, hm, hp⟩⟩⟩
  · exact ⟨cin, inp.root, defaultCtx, hcin, honest _ _ hs, .inr ⟨rfl, .inr ⟨enc, hm, ht, p, hp, hav⟩⟩⟩

/-! ### structural facts the attacks of the property text run into -/

/-- an unsigned or badly signed Response never lends its authority: with no valid Response signature
    every accepted assertion carries its own -/
theorem C01_unsigned_response_needs_signed_assertion (inp : Input) (a : SP.AssertionS) (h : parseT inp = .ok a)
    (hr : sigStateT inp defaultCtx inp.root ≠ .valid) :
    ∃ cin, subContext defaultCtx inp.root.attrs = some cin ∧
      ((∃ el ∈ inp.root.children, inp.aview el.nid = some a ∧ sigStateT inp cin el = .valid) ∨
       (∃ enc ∈ inp.root.children, ∃ p, inp.plain enc.nid = some p ∧ inp.aview p.nid = some a ∧
          sigStateT inp defaultCtx p = .valid)) := by
  obtain ⟨_, cin, hcin, hcase⟩ := C01_sound inp a h
  refine ⟨cin, hcin, hcase.imp ?_ ?_⟩
  · rintro ⟨el, hm, _, hav, hs⟩
    exact ⟨el, hm, hav, hs.resolve_right hr⟩
  · rintro ⟨enc, hm, _, p, hp, hav, hs⟩
    exact ⟨enc, hm, p, hp, hav, hs.resolve_right hr⟩

/-- two ds:Signature children, or none, are never "valid" -/
theorem C01_signature_child_unique (inp : Input) (ctx cin : NSCtx) (el : Node) (l : List Node)
    (hc : subContext ctx el.attrs = some cin) (hf : findChildren cin dsigNS "Signature" el.children = some l)
    (hl : l.length ≠ 1) : sigStateT inp ctx el ≠ .valid := by
  intro hv
  obtain ⟨⟨cin', s, hc', hf'⟩, _⟩ := C01_valid_is_signed inp ctx el hv
  cases hc.symm.trans hc'
  cases hf.symm.trans hf'
  exact hl rfl

/-- a look-alike in a foreign namespace is not a signature: only children resolving to the dsig
    namespace count -/
theorem C01_foreign_signature_ignored (ctx : NSCtx) (c : Node) (rest out : List Node) (cctx : NSCtx) (cns : String)
    (he : c.isElem = true) (ht : c.tag = "Signature") (hr : resolveElem ctx c = some (cctx, cns)) (hns : cns ≠ dsigNS)
    (hrest : findChildren ctx dsigNS "Signature" rest = some out) :
    findChildren ctx dsigNS "Signature" (c :: rest) = some out := by
  unfold findChildren
  simp [he, ht, hr, hrest, hns]

/-! ### what can be edited without the key

The canonical form, and with it every digest, is blind to comments and to how character data is
divided: an attacker may insert comments into signed content and the signature stays valid.
Soundness then rests on the reader extracting the same values from the edited tree: encoding/xml
concatenates character data across comments (tested by the `comment-in-nameid` operation and the
forgery oracle; not proved). -/

theorem C01_comment_free (ctx : NSCtx) (pending : String) (pre post : List Node) (s : String) :
    canonList ctx pending (pre ++ .other "comment" s :: post) = canonList ctx pending (pre ++ post) :=
  canonList_append_congr ctx pre _ _ (fun p => canonList_comment_head ctx p s post) pending

theorem C01_text_split_free (ctx : NSCtx) (pending : String) (pre post : List Node) (a b : String) :
    canonList ctx pending (pre ++ .text false (a ++ b) :: post) =
      canonList ctx pending (pre ++ .text false a :: .text false b :: post) :=
  canonList_append_congr ctx pre _ _ (fun p => by simp only [canonList_text, String.append_assoc]) pending

/-! ### KeyInfo removal -/

theorem removeNidList_strip (nid : Nat) (cs : List Node)
    (h : ∀ c ∈ cs, c.isElem = true → c.tag = "Signature" → c.nid = nid) :
    removeNidList nid (stripInFirstSignature cs) = removeNidList nid cs := by
  fun_induction stripInFirstSignature cs with
  | case1 => rfl
  | case2 rest n =>
    -- the Signature that loses its KeyInfo is the one `removeNid` drops
    have hn : n = nid := h _ List.mem_cons_self rfl rfl
    simp [removeNidList, Node.isElem, Node.nid, hn]
  | case3 _ _ _ _ _ _ _ ih | case4 _ _ _ ih =>
    simp only [removeNidList, ih fun c hc => h c (List.mem_cons_of_mem _ hc)]

/-- when every Signature-named child of `el` is the Signature `nid` (the usual case: one Signature child),
    what the digest is computed over is `el` without that Signature, KeyInfo removal or not -/
theorem removeNid_stripKeyInfo (nid : Nat) (el : Node)
    (h : ∀ c ∈ el.children, c.isElem = true → c.tag = "Signature" → c.nid = nid) :
    removeNid nid (stripKeyInfo el).1 = removeNid nid el := by
  fun_cases stripKeyInfo el
  case case1 => exact congrArg (Node.elem _ _ _ _) (removeNidList_strip nid _ h)
  all_goals rfl

/-! ### obligations on the current source (regenerated facts): the structure the model assumes -/

/-- only descriptors with use "" or "signing" feed the signing roots (`metadataRoots`) -/
theorem C01_signing_uses : Facts.signingCertUses = ["", "signing"] := rfl

/-- `findChildren` skips on the tag, fails on an unresolvable prefix, skips on the namespace — and
    nothing else (in particular it does not match on the local name alone) -/
theorem C01_find_children_shape : Facts.findChildrenConds =
    ["childEl.Tag != childTag", "err != nil", "err != nil", "err != nil", "ns != childNS"] := rfl

/-- the element whose signature is validated is the element that is unmarshalled -/
theorem C01_same_element : Facts.parseAssertionCalls =
    ["sp.validateSignature(assertionEl)", "unmarshalElement(assertionEl)", "sp.validateAssertion(&assertion)"] := rfl

/-- the Response verdict: valid lifts the requirement, absent keeps it, anything else rejects -/
theorem C01_response_verdict : Facts.responseSignatureSwitch =
    ["nil => signatureRequirement = signatureNotRequired",
     "errSignatureElementNotPresent => signatureRequirement = signatureRequired",
     "<default> => return nil, responseSignatureErr"] := rfl

/-- the Signature is looked up as a ds:Signature *child*, and goxmldsig is handed the detached element -/
theorem C01_signature_lookup : Facts.validateSignatureCalls =
    ["findChild(el, \"http://www.w3.org/2000/09/xmldsig#\", \"Signature\")", "etreeutils.NSDetatch(ctx, el)",
     "validationContext.Validate(el)"] := rfl

/-- every entry point that parses bytes, and the decrypted plaintext, goes through the round-trip validator -/
theorem C01_round_trip_validation :
    ["ParseXMLArtifactResponse", "ParseXMLResponse", "decryptElement"].all (Facts.xrvCallSites.contains ·) = true := by
  simp [Facts.xrvCallSites]

theorem C01_extraction_clean : Facts.extractionFailures = [] := rfl

/-! ### non-vacuity: a signed assertion in an unsigned Response is accepted; its unsigned twin is not -/

def exSI : Node := .elem 12 "ds" "SignedInfo" []
  [.elem 13 "ds" "CanonicalizationMethod" [⟨"", "Algorithm", excC14n⟩] [],
   .elem 14 "ds" "Reference" [⟨"", "URI", "#a1"⟩] [.elem 15 "ds" "DigestValue" [] [.text false "D1"]]]

def exSig : Node := .elem 11 "ds" "Signature" [⟨"xmlns", "ds", dsigNS⟩]
  [exSI, .elem 16 "ds" "SignatureValue" [] [.text false "S1"]]

def exBody : List Node := [.elem 20 "saml" "Issuer" [] [.text false "idp"], .elem 21 "saml" "Subject" [] [.text false "alice"]]

def exAssertion : Node := .elem 10 "saml" "Assertion" [⟨"xmlns", "saml", samlNS⟩, ⟨"", "ID", "a1"⟩] (exSig :: exBody)
def exUnsigned : Node := .elem 30 "saml" "Assertion" [⟨"xmlns", "saml", samlNS⟩, ⟨"", "ID", "a2"⟩] exBody

def exRoot (a : Node) : Node := .elem 1 "samlp" "Response" [⟨"xmlns", "samlp", "urn:oasis:names:tc:SAML:2.0:protocol"⟩] [a]

def exView : SP.AssertionS := ⟨0, "idp", some [⟨some ⟨"r1", "https://sp/acs", 100⟩⟩], some ⟨0, 100, []⟩, "alice"⟩

def exCfg : SP.Cfg :=
  { idpEntityID := "idp", acsURL := "https://sp/acs", entityID := "sp", metadataURL := "", allowIdP := false,
    reqIdValidator := none, audValidator := none, delay := 90, skew := 0, statusSuccess := "ok" }

def exInput (a : Node) : Input :=
  { cfg := exCfg, trust := .metadata [("signing", ["K1"])],
    ledger := ⟨[("S1", "K1", (canonNode [("ds", dsigNS), ("saml", samlNS)] exSI).getD "")],
               [("D1", (canonNode defaultCtx (removeNid 11 exAssertion)).getD "")]⟩,
    now := 10, ids := ["r1"], url := "https://sp/acs", wellFormed := true, root := exRoot a,
    header := some ⟨"https://sp/acs", "r1", 5, some "idp", "ok", []⟩,
    aview := fun n => if n = 10 ∨ n = 30 then some exView else none,
    sview := fun n => if n = 11 then some ⟨excC14n, [⟨"#a1", [envelopedAlg, excC14n], "D1"⟩], some "S1", none⟩ else none,
    plain := fun _ => none }

example : (parseT (exInput exAssertion)).isOk = true := by decide +kernel
example : (parseT (exInput exUnsigned)).isOk = false := by decide +kernel

end SamlVerif.Tree

