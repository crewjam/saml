/-
  Theorems about the definitions regenerated from the *current* service_provider.go (`Generated/Trans.lean`, written by
  `extract/trans.go` on every run).  The hand-written models of C02 / C03 / C04 / C18 are tied to the code by the correspondence
  check; these theorems tie them a second time, by proof: the regenerated `validateAssertion` returns nil exactly when the
  conditions of the properties hold, written on the Go structures (`validateAssertion_spec`, `AssertionChecks`), and read through
  `absA` / `absCfg` these are the model's `SP.AssertionValid` (`assertionValid_abs`).  `validateRequestID` and
  `validateLogoutResponse` are characterised on the Go structures only: their conditions are those of the models (`SP.ReqIdOK`;
  `Logout.Valid`, Props/C18.lean) written out again, and no theorem compares the two.

  Hypotheses: `IDPMetadata` is set (a nil `IDPMetadata` panics in the Go code too — configuration, not input) and, except in the
  two `_hook` theorems, no application hook replaces the check.
-/
import SamlVerif.Proofs.TransSP

namespace SamlVerif.TransSP
open SamlVerif SamlVerif.GoSem

/-- the translator recognised every construct of the functions it was asked to translate -/
theorem Trans_no_failures : Trans.transFailures = [] := rfl

/-- `validateAssertion` as regenerated from the source has the verdict of the model (ok / error / panic). -/
theorem Trans_validateAssertion_refines (env : Trans.Env) (sp : Trans.ServiceProvider) (idp : Trans.EntityDescriptor)
    (a : Trans.Assertion) (ids : List String) (now : Int)
    (hidp : sp.IDPMetadata = some idp) (hv : sp.ValidateAudienceRestriction = none) :
    (toOutcome (Trans.validateAssertion env sp (some a) ids now)).cls =
      (SP.validateAssertion (absCfg env sp idp) now ids (absA a)).cls := by
  obtain ⟨e, he, hiff⟩ := validateAssertion_spec env sp idp a ids now hidp hv
  rw [he]
  rw [← assertionValid_abs, ← SP.validateAssertion_ok_iff] at hiff
  rcases Outcome.ok_or_err.2 (SP.validateAssertion_ne_panic (absCfg env sp idp) now ids (absA a)) with hk | ⟨t, ht⟩
  · rw [hk, hiff.2 hk]
    rfl
  · rw [ht]
    cases e with
    | none => exact nomatch ht.symm.trans (hiff.1 rfl)
    | some e' => rfl

/-- **C02 / C03 / C04 on the translated code**: when the regenerated `validateAssertion` returns nil, the assertion is
    inside every window at the configured tolerances, comes from the configured IdP, every confirmation names the ACS URL
    and an outstanding request, and the audience restriction names this SP. -/
theorem Trans_validateAssertion_sound (env : Trans.Env) (sp : Trans.ServiceProvider) (idp : Trans.EntityDescriptor)
    (a : Trans.Assertion) (ids : List String) (now : Int)
    (hidp : sp.IDPMetadata = some idp) (hv : sp.ValidateAudienceRestriction = none)
    (h : Trans.validateAssertion env sp (some a) ids now = .ok none) :
    now ≤ a.IssueInstant + env.MaxIssueDelay ∧
    a.Issuer.Value = idp.EntityID ∧
    (∃ s, a.Subject = some s ∧ ∀ sc ∈ s.SubjectConfirmations, ∃ d, sc.SubjectConfirmationData = some d ∧
        (sp.AllowIDPInitiated = true ∨ d.InResponseTo ∈ ids) ∧ d.Recipient = sp.AcsURL.str ∧
        now ≤ d.NotOnOrAfter + env.MaxClockSkew) ∧
    (∃ c, a.Conditions = some c ∧ c.NotBefore - env.MaxClockSkew ≤ now ∧ now ≤ c.NotOnOrAfter + env.MaxClockSkew ∧
        (c.AudienceRestrictions = [] ∨
          ∃ r ∈ c.AudienceRestrictions, r.Audience.Value = SP.firstSet sp.EntityID sp.MetadataURL.str)) := by
  obtain ⟨e, he, hiff⟩ := validateAssertion_spec env sp idp a ids now hidp hv
  cases he.symm.trans h
  exact hiff.1 rfl

/-- **completeness on the translated code**: inside all windows, addressed to this SP by its IdP → nil. -/
theorem Trans_validateAssertion_complete (env : Trans.Env) (sp : Trans.ServiceProvider) (idp : Trans.EntityDescriptor)
    (a : Trans.Assertion) (ids : List String) (now : Int)
    (hidp : sp.IDPMetadata = some idp) (hv : sp.ValidateAudienceRestriction = none)
    (hvalid : SP.AssertionValid (absCfg env sp idp) now ids (absA a)) :
    Trans.validateAssertion env sp (some a) ids now = .ok none := by
  obtain ⟨e, he, hiff⟩ := validateAssertion_spec env sp idp a ids now hidp hv
  rw [he, hiff.2 ((assertionValid_abs ..).1 hvalid)]

/-- the translated `validateAssertion` never panics on an assertion (nil Subject / Conditions / confirmation data are errors) -/
theorem Trans_validateAssertion_total (env : Trans.Env) (sp : Trans.ServiceProvider) (idp : Trans.EntityDescriptor)
    (a : Trans.Assertion) (ids : List String) (now : Int)
    (hidp : sp.IDPMetadata = some idp) (hv : sp.ValidateAudienceRestriction = none) (w : String) :
    Trans.validateAssertion env sp (some a) ids now ≠ .panic w := by
  obtain ⟨e, he, -⟩ := validateAssertion_spec env sp idp a ids now hidp hv
  rw [he]
  nofun

/-- **C04 on the translated code** (`validateRequestID`): nil exactly when IdP-initiated login is allowed or InResponseTo
    is one of the outstanding IDs; with no outstanding IDs and the switch off, never. -/
theorem Trans_validateRequestID_iff (env : Trans.Env) (sp : Trans.ServiceProvider) (r : Trans.Response) (ids : List String)
    (h : sp.ValidateRequestID = none) :
    Trans.validateRequestID env sp r ids = .ok none ↔ (sp.AllowIDPInitiated = true ∨ r.InResponseTo ∈ ids) := by
  unfold Trans.validateRequestID
  simp only [h, Option.isSome_none, Bool.false_eq_true, if_false, Outcome.pure_eq_ok, forIn_flag]
  cases sp.AllowIDPInitiated <;> simp

theorem Trans_validateRequestID_empty (env : Trans.Env) (sp : Trans.ServiceProvider) (r : Trans.Response)
    (h : sp.ValidateRequestID = none) (ha : sp.AllowIDPInitiated = false) :
    Trans.validateRequestID env sp r [] ≠ .ok none := by
  intro hh
  simpa [ha] using (Trans_validateRequestID_iff env sp r [] h).1 hh

/-- an installed request-ID hook decides alone -/
theorem Trans_validateRequestID_hook (env : Trans.Env) (sp : Trans.ServiceProvider) (r : Trans.Response) (ids : List String)
    (f) (h : sp.ValidateRequestID = some f) :
    Trans.validateRequestID env sp r ids = f r ids := by
  unfold Trans.validateRequestID
  simp [h]

/-- an installed audience hook decides alone (any error it returns is an error, nil is nil) -/
theorem Trans_validateAudienceRestriction_hook (env : Trans.Env) (sp : Trans.ServiceProvider) (a : Option Trans.Assertion)
    (f) (h : sp.ValidateAudienceRestriction = some f) :
    (toOutcome (Trans.validateAudienceRestriction env sp a)).cls = (toOutcome (f a)).cls := by
  unfold Trans.validateAudienceRestriction
  simp only [h, Option.isSome_some, if_true, deref_some, Outcome.ok_bind']
  rcases f a with (_ | _) | _ | _ <;> rfl

/-- **C18 on the translated code**: `validateLogoutResponse` returns nil exactly when the response is addressed to the
    logout URL, fresh, issued by the configured IdP and Success. -/
theorem Trans_validateLogoutResponse_iff (env : Trans.Env) (sp : Trans.ServiceProvider) (idp : Trans.EntityDescriptor)
    (r : Trans.LogoutResponse) (hidp : sp.IDPMetadata = some idp) :
    Trans.validateLogoutResponse env sp (some r) = .ok none ↔
      (r.Destination = sp.SloURL.str ∧ env.timeNow ≤ r.IssueInstant + env.MaxIssueDelay ∧
        (∃ i, r.Issuer = some i ∧ i.Value = idp.EntityID) ∧ r.Status.StatusCode.Value = env.StatusSuccess) := by
  obtain ⟨e, he, hiff⟩ := validateLogoutResponse_spec env sp idp r hidp
  rw [he, ← hiff, Outcome.ok.injEq]

/-- the translated `validateLogoutResponse` never panics on a response (a missing Issuer is an error) -/
theorem Trans_validateLogoutResponse_total (env : Trans.Env) (sp : Trans.ServiceProvider) (idp : Trans.EntityDescriptor)
    (r : Trans.LogoutResponse) (hidp : sp.IDPMetadata = some idp) (w : String) :
    Trans.validateLogoutResponse env sp (some r) ≠ .panic w := by
  obtain ⟨e, he, -⟩ := validateLogoutResponse_spec env sp idp r hidp
  rw [he]
  nofun

/-! non-vacuity: a concrete assertion that the translated validator accepts, and one it refuses -/

def exEnv : Trans.Env :=
  { (default : Trans.Env) with MaxClockSkew := 180000, MaxIssueDelay := 90000, StatusSuccess := "ok", timeNow := 1000 }
def exSP : Trans.ServiceProvider :=
  { (default : Trans.ServiceProvider) with
    EntityID := "sp", MetadataURL := ⟨"https://sp/md"⟩, AcsURL := ⟨"https://sp/acs"⟩, SloURL := ⟨"https://sp/slo"⟩,
    IDPMetadata := some { (default : Trans.EntityDescriptor) with EntityID := "idp" }, AllowIDPInitiated := false,
    ValidateAudienceRestriction := none, ValidateRequestID := none }
def exA : Trans.Assertion :=
  { IssueInstant := 1000, Issuer := ⟨"idp"⟩,
    Subject := some ⟨[⟨some { NotOnOrAfter := 2000, Recipient := "https://sp/acs", InResponseTo := "id-1" }⟩]⟩,
    Conditions := some { NotBefore := 900, NotOnOrAfter := 2000, AudienceRestrictions := [⟨⟨"sp"⟩⟩] } }

example : Trans.validateAssertion exEnv exSP (some exA) ["id-1"] 1000 = .ok none := by decide
example : Trans.validateAssertion exEnv exSP (some exA) ["id-2"] 1000 ≠ .ok none := by decide
example : Trans.validateAssertion exEnv exSP (some { exA with Subject := none }) ["id-1"] 1000 ≠ .ok none := by decide

end SamlVerif.TransSP
