/-
  GoSem — run-time support for the definitions that `extract/trans.go` regenerates from the Go source
  (`Generated/Trans.lean`).  Conventions: DESIGN §7.8 and the header of trans.go.
  Core Lean only.
-/
import SamlVerif.Model.Prelude

namespace SamlVerif.GoSem
open SamlVerif

/-- A Go `error` value: `none` is `nil`; the string names the site that made it. -/
abbrev GoError := Option String

/-- `*p` / `p.f` for a pointer `p`: a nil pointer dereference is a run-time panic. -/
def deref {α} (p : Option α) : Outcome α :=
  match p with
  | some a => .ok a
  | none => .panic "nil dereference"

/-- `xs[i]` -/
def index {α} (xs : List α) (i : Int) : Outcome α :=
  if i < 0 then .panic "index out of range" else
  match xs[i.toNat]? with
  | some a => .ok a
  | none => .panic "index out of range"

/-- `xs[i] = v` on a slice nothing else aliases (the translator checks that, `freshSlices`) -/
def setIndex {α} (xs : List α) (i : Int) (v : α) : Outcome (List α) :=
  if i < 0 then .panic "index out of range" else
  if i.toNat < xs.length then .ok (xs.set i.toNat v) else .panic "index out of range"

/-- `make([]T, n)` -/
def makeSlice {α} (n : Int) (zero : α) : Outcome (List α) :=
  if n < 0 then .panic "makeslice: len out of range" else .ok (List.replicate n.toNat zero)

/-- `xs[:n]` with `n` within the length (Go allows `n` up to the capacity, which the model does not track: then it panics
    here, and the correspondence run would show the difference) -/
def sliceTo {α} (xs : List α) (n : Int) : Outcome (List α) :=
  if n < 0 ∨ n > xs.length then .panic "slice bounds out of range" else .ok (xs.take n.toNat)

/-- `xs[n:]` -/
def sliceFrom {α} (xs : List α) (n : Int) : Outcome (List α) :=
  if n < 0 ∨ n > xs.length then .panic "slice bounds out of range" else .ok (xs.drop n.toNat)

/-- `a % b` on Go's `int` (truncated remainder; a zero divisor panics).  `int` is unbounded here: no wrap-around. -/
def goMod (a b : Int) : Outcome Int :=
  if b = 0 then .panic "integer divide by zero" else .ok (a.tmod b)

/-- `a / b` on Go's `int` (truncated quotient) -/
def goDiv (a b : Int) : Outcome Int :=
  if b = 0 then .panic "integer divide by zero" else .ok (a.tdiv b)

/-- `byte(x)`: the low eight bits -/
def toByte (x : Int) : UInt8 := UInt8.ofNat (x % 256).toNat

/-- `int(b)` for a byte -/
def byteToInt (b : UInt8) : Int := (b.toNat : Int)

/-- `url.URL`: only its `String()` is used by the translated code. -/
structure URL where
  str : String
  deriving DecidableEq, Repr, Inhabited

/-- `*http.Request`, handed through to the provider registry untouched. -/
structure HTTPRequest where
  id : Nat
  deriving DecidableEq, Repr, Inhabited

/-- `*etree.Element`: opaque; what the untranslated functions (signature validation, unmarshalling, decryption, child
    lookup) make of an element is given by the corresponding fields of the generated `Env`. -/
structure Element where
  id : Nat
  deriving DecidableEq, Repr, Inhabited

/-- `http.ResponseWriter`: opaque; what a translated handler does to it is the handler's trace (`List Event`) -/
structure ResponseWriter where
  id : Nat
  deriving DecidableEq, Repr, Inhabited

/-- one effect of a translated HTTP handler on its ResponseWriter: the callee as written in the source, and its string, error
    and status arguments -/
structure Event where
  name : String
  args : List String
  deriving DecidableEq, Repr, Inhabited

/-- how an error argument is recorded in a trace -/
def errStr : GoError → String
  | none => "nil"
  | some e => e

/-- `*http.Cookie` as the translated code reads it -/
structure Cookie where
  Name : String
  Value : String
  deriving DecidableEq, Repr, Inhabited

/-- `strings.HasPrefix` -/
def hasPrefix (s p : String) : Bool := p.toList.isPrefixOf s.toList

/-- `strings.TrimPrefix` -/
def trimPrefix (s p : String) : String := if hasPrefix s p then String.ofList (s.toList.drop p.toList.length) else s

/-- Go maps with string keys, as association lists that hold one binding per key -/
def mapDelete {α} (m : List (String × α)) (k : String) : List (String × α) := m.filter (fun p => p.1 != k)
/-- `m[k] = v` -/
def mapSet {α} (m : List (String × α)) (k : String) (v : α) : List (String × α) := (k, v) :: mapDelete m k
/-- `m[k]` (with its presence) -/
def mapGet {α} (m : List (String × α)) (k : String) : Option α := (m.find? (fun p => p.1 == k)).map (·.2)

theorem mapGet_mapDelete_self {α} (m : List (String × α)) (k : String) : mapGet (mapDelete m k) k = none := by
  simp [mapGet, mapDelete]
theorem mapGet_mapDelete_other {α} (m : List (String × α)) (k k' : String) (h : k' ≠ k) :
    mapGet (mapDelete m k) k' = mapGet m k' := by
  unfold mapGet mapDelete
  rw [List.find?_filter]
  congr 2
  funext p
  by_cases hp : p.1 = k' <;> simp [hp, h]
theorem mapGet_mapSet_self {α} (m : List (String × α)) (k : String) (v : α) : mapGet (mapSet m k v) k = some v := by
  simp [mapGet, mapSet]
theorem mapGet_mapSet_other {α} (m : List (String × α)) (k k' : String) (v : α) (h : k' ≠ k) :
    mapGet (mapSet m k v) k' = mapGet m k' := by
  rw [← mapGet_mapDelete_other m k k' h]
  simp [mapGet, mapSet, Ne.symm h]

/-- `*x509.Certificate`: opaque (which key it certifies is the business of the signature layer) -/
structure Certificate where
  id : Nat
  deriving DecidableEq, Repr, Inhabited

instance {α} : Inhabited (Outcome α) := ⟨.panic "uninitialised function value"⟩

/-- `strconv.Itoa` -/
def itoa (i : Int) : String := toString i

@[simp] theorem deref_some {α} (a : α) : deref (some a) = .ok a := rfl
@[simp] theorem deref_none {α} : deref (none : Option α) = .panic "nil dereference" := rfl

/-- What a caller of a Go function returning `error` observes, in the vocabulary of the hand-written models. -/
def toOutcome : Outcome GoError → Outcome Unit
  | .ok none => .ok ()
  | .ok (some e) => .err e
  | .err e => .err e
  | .panic w => .panic w

end SamlVerif.GoSem

namespace SamlVerif.Outcome

@[simp] theorem ok_bind' {α β} (a : α) (f : α → Outcome β) : (Outcome.ok a >>= f) = f a := rfl
@[simp] theorem err_bind' {α β} (s : String) (f : α → Outcome β) : ((Outcome.err s : Outcome α) >>= f) = .err s := rfl
@[simp] theorem panic_bind' {α β} (s : String) (f : α → Outcome β) : ((Outcome.panic s : Outcome α) >>= f) = .panic s := rfl
@[simp] theorem pure_eq_ok {α} (a : α) : (pure a : Outcome α) = .ok a := rfl

instance : LawfulMonad Outcome := LawfulMonad.mk' _
  (id_map := by intro α x; cases x <;> rfl)
  (pure_bind := by intros; rfl)
  (bind_assoc := by intro α β γ x f g; cases x <;> rfl)

end SamlVerif.Outcome
