/- When the run-time-checked operations of `Model/GoSem.lean` succeed, and with what. -/
import SamlVerif.Model.GoSem

namespace SamlVerif.GoSem
variable {α : Type}

theorem index_ok {xs : List α} {i : Int} (h0 : 0 ≤ i) (h1 : i.toNat < xs.length) :
    index xs i = .ok xs[i.toNat] := by
  simp [index, Int.not_lt.mpr h0, h1]

/-- `xs[len(xs)-1]` -/
theorem index_last {xs : List α} {a : α} (h : xs.getLast? = some a) :
    index xs ((xs.length : Int) - 1) = .ok a := by
  obtain ⟨ys, rfl⟩ := List.getLast?_eq_some_iff.mp h
  rw [index_ok (by simp) (by simp)]
  simp

theorem setIndex_ok {xs : List α} {i : Int} (h0 : 0 ≤ i) (h1 : i.toNat < xs.length) (v : α) :
    setIndex xs i v = .ok (xs.set i.toNat v) := by
  simp [setIndex, Int.not_lt.mpr h0, h1]

theorem makeSlice_ok {n : Int} (h : 0 ≤ n) (z : α) : makeSlice n z = .ok (List.replicate n.toNat z) := by
  simp [makeSlice, Int.not_lt.mpr h]

theorem sliceTo_ok {xs : List α} {n : Int} (h0 : 0 ≤ n) (h1 : n ≤ xs.length) :
    sliceTo xs n = .ok (xs.take n.toNat) := by
  simp [sliceTo, Int.not_lt.mpr h0, Int.not_lt.mpr h1]

theorem sliceFrom_ok {xs : List α} {n : Int} (h0 : 0 ≤ n) (h1 : n ≤ xs.length) :
    sliceFrom xs n = .ok (xs.drop n.toNat) := by
  simp [sliceFrom, Int.not_lt.mpr h0, Int.not_lt.mpr h1]

/-- Go's `%` is Lean's `%` on a non-negative dividend -/
theorem goMod_ok {a b : Int} (ha : 0 ≤ a) (hb : b ≠ 0) : goMod a b = .ok (a % b) := by
  simp [goMod, hb, Int.tmod_eq_emod_of_nonneg ha]

theorem toByte_natCast (n : Nat) : toByte (n : Int) = UInt8.ofNat n := by
  apply UInt8.toNat_inj.mp
  simp only [toByte, UInt8.toNat_ofNat']
  omega

end SamlVerif.GoSem
