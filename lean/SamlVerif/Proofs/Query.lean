import SamlVerif.Model.Codec.Query

namespace SamlVerif.Codec

theorem hexUpper_table : ∀ n < 16, unhex (hexUpper n) = some n ∧ isUnreserved (hexUpper n) = true := by
  decide +kernel

theorem query_roundtrip (s : Bytes) : queryUnescape (queryEscape s) = some s := by
  fun_induction queryEscape s with
  | case1 => rfl
  | case2 b r h32 ih =>
    unfold queryUnescape
    simp [ih, ← UInt8.toNat_inj, h32]
  | case3 b r _ hu ih =>
    have : b.toNat ≠ 37 ∧ b.toNat ≠ 43 := by
      simp only [isUnreserved, decide_eq_true_eq] at hu
      omega
    unfold queryUnescape
    simp [ih, this]
  | case4 b r _ _ ih =>
    have hb := b.toNat_lt
    unfold queryUnescape
    simp [ih, hexUpper_table, show b.toNat / 16 < 16 by omega, Nat.mod_lt, Nat.div_add_mod',
      -UInt8.ofNat_add, -UInt8.ofNat_mul]

theorem escape_alphabet (s : Bytes) : ∀ c ∈ queryEscape s, isUnreserved c = true ∨ c.toNat = 37 ∨ c.toNat = 43 := by
  fun_induction queryEscape s with
  | case1 => simp
  | case2 b r _ ih => simpa using ih
  | case3 b r _ hu ih => simpa [hu] using ih
  | case4 b r _ _ ih =>
    have hb := b.toNat_lt
    simpa [hexUpper_table, show b.toNat / 16 < 16 by omega, Nat.mod_lt] using ih

theorem escape_no_special (s : Bytes) (c : UInt8) (hc : c ∈ queryEscape s) :
    c.toNat ≠ 38 ∧ c.toNat ≠ 61 ∧ c.toNat ≠ 59 ∧ c.toNat ≠ 35 ∧ c.toNat ≠ 63 ∧ c.toNat ≠ 32 := by
  have := escape_alphabet s c hc
  simp only [isUnreserved, decide_eq_true_eq] at this
  omega

theorem splitOn_eq_cons (sep : UInt8) (s : Bytes) : ∃ x xs, splitOn sep s = x :: xs := by
  induction s with
  | nil => exact ⟨_, _, rfl⟩
  | cons b r ih =>
    obtain ⟨x, xs, h⟩ := ih
    by_cases hb : b = sep <;> simp [splitOn, h, hb]

theorem splitOn_no_sep (sep : UInt8) (s : Bytes) (h : sep ∉ s) : splitOn sep s = [s] := by
  induction s with
  | nil => rfl
  | cons b r ih =>
    rw [List.mem_cons, not_or] at h
    simp [splitOn, ih h.2, Ne.symm h.1]

theorem splitOn_join (sep : UInt8) (a b : Bytes) :
    splitOn sep (a ++ sep :: b) = splitOn sep a ++ splitOn sep b := by
  induction a with
  | nil =>
    obtain ⟨x, xs, h⟩ := splitOn_eq_cons sep b
    simp [splitOn, h]
  | cons c r ih =>
    obtain ⟨x, xs, h⟩ := splitOn_eq_cons sep r
    by_cases hc : c = sep <;> simp [splitOn, ih, h, hc]

theorem cutEq_append (k v : Bytes) (hk : ∀ c ∈ k, c.toNat ≠ 61) : cutEq (k ++ 61 :: v) = (k, v) := by
  induction k with
  | nil => simp [cutEq]
  | cons b r ih =>
    rw [List.forall_mem_cons] at hk
    simp [cutEq, hk.1, ih hk.2]

/-! ### ParseQuery

Two facts carry everything the bindings need: `ParseQuery` of two queries joined by `&` is the one
parse followed by the other (`parseQuery_join`), and an escaped pair parses to itself
(`parseQuery_encodePair`). -/

theorem parseQuery_nil : parseQuery [] = ([], true) := rfl

/-- a fold whose step only puts something in front of the list and may lower the flag, whatever the
    accumulator holds, can be run on the empty accumulator and the accumulator appended afterwards -/
theorem foldr_writer {γ α : Type} (f : γ → List α × Bool → List α × Bool)
    (hf : ∀ c acc, f c acc = ((f c ([], true)).1 ++ acc.1, ((f c ([], true)).2 && acc.2)))
    (cs : List γ) (acc : List α × Bool) :
    cs.foldr f acc = ((cs.foldr f ([], true)).1 ++ acc.1, ((cs.foldr f ([], true)).2 && acc.2)) := by
  induction cs with
  | nil => simp
  | cons c cs ih =>
    rw [List.foldr_cons, List.foldr_cons, ih, hf, hf c (List.foldr _ _ _)]
    simp [Bool.and_assoc]

theorem parseQuery_join (a b : Bytes) :
    parseQuery (a ++ 38 :: b) =
      ((parseQuery a).1 ++ (parseQuery b).1, ((parseQuery a).2 && (parseQuery b).2)) := by
  unfold parseQuery
  rw [splitOn_join, List.foldr_append]
  -- the step of `parseQuery` is such a fold step: every branch returns `acc`, `acc` with the flag
  -- lowered, or `acc` with one pair in front
  refine foldr_writer _ (fun c acc => ?_) _ _
  dsimp only
  repeat' split
  all_goals rfl

theorem encodePair_inert (k v : Bytes) : ∀ c ∈ encodePair k v, c.toNat ≠ 38 ∧ c.toNat ≠ 59 := by
  simp only [encodePair, List.mem_append, List.mem_cons]
  rintro c (h | rfl | h)
  · exact ⟨(escape_no_special k c h).1, (escape_no_special k c h).2.2.1⟩
  · decide
  · exact ⟨(escape_no_special v c h).1, (escape_no_special v c h).2.2.1⟩

theorem parseQuery_encodePair (k v : Bytes) : parseQuery (encodePair k v) = ([(k, v)], true) := by
  have hin := encodePair_inert k v
  have hne : encodePair k v ≠ [] := by simp [encodePair]
  have hsemi : (encodePair k v).any (fun b => b.toNat = 59) = false := by
    simpa using fun c hc => (hin c hc).2
  have hcut : cutEq (encodePair k v) = (queryEscape k, queryEscape v) :=
    cutEq_append _ _ fun c hc => (escape_no_special k c hc).2.1
  unfold parseQuery
  rw [splitOn_no_sep 38 _ fun h => (hin _ h).1 rfl]
  simp only [List.foldr_cons, List.foldr_nil, if_neg hne, hsemi, hcut, query_roundtrip]
  rfl

end SamlVerif.Codec
