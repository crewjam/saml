/-
  `Duration.parse` on what `Duration.marshal` writes.  `timeText` is `marshal` after `PT` (`marshal_eq`), field
  by field; a written field is read back (`optField_field`) and the text of a later field is not taken for
  an earlier one (`optField_other`, `optField_secText`).
-/
import SamlVerif.Model.Duration

namespace SamlVerif.Duration

theorem showNat_digits (n : Nat) : ∀ c ∈ showNat n, c.isDigit = true :=
  fun _ => Nat.isDigit_of_mem_toDigits (by decide) (by decide)

theorem showNat_ne_nil (n : Nat) : showNat n ≠ [] := Nat.toDigits_ne_nil

theorem decNat_showNat (n : Nat) : decNat (showNat n) = n := Nat.ofDigitChars_ten_toDigits

theorem takeDigits_append (ds rest : List Char) (hd : ∀ x ∈ ds, x.isDigit = true)
    (hr : ∀ c ∈ rest.head?, c.isDigit = false) : takeDigits (ds ++ rest) = (ds, rest) := by
  induction ds with
  | nil =>
    cases rest with
    | nil => rfl
    | cons c r => simp [takeDigits, hr c rfl]
  | cons d ds ih =>
    rw [List.forall_mem_cons] at hd
    simp [takeDigits, hd.1, ih hd.2]

theorem takeDigits_all (ds : List Char) (hd : ∀ x ∈ ds, x.isDigit = true) :
    takeDigits ds = (ds, []) := by
  simpa using takeDigits_append ds [] hd (by simp)

/-- a number followed by a non-digit is a field exactly when that character is the field's letter -/
theorem optField_showNat (L c : Char) (hc : c.isDigit = false) (n : Nat) (rest : List Char) :
    optField L (showNat n ++ c :: rest) =
      if c = L then (some (showNat n), rest) else (none, showNat n ++ c :: rest) := by
  unfold optField
  rw [takeDigits_append _ _ (showNat_digits n) (by simpa using hc)]
  cases h : showNat n with
  | nil => exact absurd h (showNat_ne_nil n)
  | cons d ds => rfl

theorem optField_nondigit (L c : Char) (hc : c.isDigit = false) (rest : List Char) :
    optField L (c :: rest) = (none, c :: rest) := by
  simp [optField, takeDigits, hc]

theorem optSeconds_whole (n : Nat) : optSeconds (showNat n ++ ['S']) = (some (showNat n, []), []) := by
  unfold optSeconds
  rw [takeDigits_append _ _ (showNat_digits n) (by simp)]
  cases h : showNat n with
  | nil => exact absurd h (showNat_ne_nil n)
  | cons d ds => rfl

theorem optSeconds_frac (n : Nat) (fs : List Char) (hf : ∀ x ∈ fs, x.isDigit = true) (hne : fs ≠ []) :
    optSeconds (showNat n ++ '.' :: (fs ++ ['S'])) = (some (showNat n, fs), []) := by
  unfold optSeconds
  rw [takeDigits_append _ _ (showNat_digits n) (by simp)]
  cases h : showNat n with
  | nil => exact absurd h (showNat_ne_nil n)
  | cons d ds =>
    simp only
    rw [takeDigits_append _ _ hf (by simp)]
    cases fs with
    | nil => exact absurd rfl hne
    | cons f fs' => rfl

theorem trim_append (s : List Char) : ∃ k, trimRightZeros s ++ List.replicate k '0' = s := by
  refine ⟨(s.reverse.takeWhile (· = '0')).length, ?_⟩
  rw [trimRightZeros, ← List.reverse_replicate,
    ← List.eq_replicate_of_mem fun b hb => by simpa using List.all_eq_true.mp List.all_takeWhile b hb,
    ← List.reverse_append, List.takeWhile_append_dropWhile, List.reverse_reverse]

theorem trim_digits (s : List Char) (h : ∀ c ∈ s, c.isDigit = true) :
    ∀ c ∈ trimRightZeros s, c.isDigit = true := by
  intro c hc
  obtain ⟨k, hk⟩ := trim_append s
  exact h c (by rw [← hk]; simp [hc])

theorem decNat_append_zeros (ds : List Char) (k : Nat) :
    decNat (ds ++ List.replicate k '0') = 10 ^ k * decNat ds := by
  unfold decNat
  rw [Nat.ofDigitChars_append, Nat.ofDigitChars_replicate_zero]

theorem trim_ne_nil (s : List Char) (h : decNat s ≠ 0) : trimRightZeros s ≠ [] := by
  intro hnil
  obtain ⟨k, hk⟩ := trim_append s
  rw [← hk, hnil, List.nil_append, ← List.nil_append (List.replicate k '0'), decNat_append_zeros] at h
  exact h (Nat.mul_zero _)

/-- nine digits lose nothing when their trailing zeros are dropped and put back -/
theorem fracNs_trim (s : List Char) (h : s.length = 9) : fracNs (trimRightZeros s) = decNat s := by
  obtain ⟨k, hk⟩ := trim_append s
  have hlen := congrArg List.length hk
  rw [List.length_append, List.length_replicate, h] at hlen
  rw [fracNs, List.take_of_length_le (by omega), show 9 - (trimRightZeros s).length = k by omega, hk]

theorem pad9_length (ns : Nat) (h : ns < 1000000000) : (pad9 ns).length = 9 := by
  have : (showNat ns).length ≤ 9 := (Nat.length_toDigits_le_iff (by decide) (by decide)).mpr h
  simp [pad9]
  omega

theorem pad9_digits (ns : Nat) : ∀ c ∈ pad9 ns, c.isDigit = true := by
  intro c hc
  simp [pad9] at hc
  rcases hc with ⟨_, rfl⟩ | hc
  · decide
  · exact showNat_digits ns c hc

theorem decNat_pad9 (ns : Nat) : decNat (pad9 ns) = ns := by
  simp [pad9, decNat, Nat.ofDigitChars_append, Nat.ofDigitChars_replicate_zero]
  exact decNat_showNat ns

def secText (s ns : Nat) : List Char :=
  if s > 0 ∨ ns > 0 then
    showNat s ++ (if ns > 0 then '.' :: trimRightZeros (pad9 ns) else []) ++ ['S']
  else []

def minText (m : Nat) : List Char := if m > 0 then showNat m ++ ['M'] else []
def hourText (h : Nat) : List Char := if h > 0 then showNat h ++ ['H'] else []

def timeText (h m s ns : Nat) : List Char := hourText h ++ (minText m ++ secText s ns)

theorem marshal_eq (d : Int) (hd : d ≠ 0) :
    marshal d = (if d < 0 then ['-'] else []) ++
      ('P' :: 'T' :: timeText (d.natAbs / hourNs) (d.natAbs % hourNs / minNs)
        (d.natAbs % minNs / secNs) (d.natAbs % secNs)) := by
  unfold marshal timeText hourText minText secText
  rw [if_neg hd]
  simp only [List.append_assoc, List.cons_append, List.nil_append]

theorem atoi_showNat (n : Nat) (h : (n : Int) < two63) : atoi (showNat n) = .ok n := by
  simp only [atoi, decNat_showNat, if_pos h]

theorem field_none (u : Nat) : field none u = .ok 0 := rfl

/-- an optional field `<n><L>` (written only when `n > 0`) is read back, whatever follows, provided what
    follows does not itself start with an `L` field -/
theorem optField_field (L : Char) (hL : L.isDigit = false) (n u : Nat) (hb : (n : Int) < two63) (rest : List Char)
    (hr : optField L rest = (none, rest)) :
    ∃ v, optField L ((if n > 0 then showNat n ++ [L] else []) ++ rest) = (v, rest) ∧ field v u = .ok (n * u) := by
  by_cases hn : n > 0
  · refine ⟨some (showNat n), ?_, ?_⟩
    · rw [if_pos hn, List.append_assoc, List.singleton_append, optField_showNat L L hL, if_pos rfl]
    · rw [field, atoi_showNat n hb]
      rfl
  · refine ⟨none, ?_, ?_⟩
    · rw [if_neg hn, List.nil_append, hr]
    · rw [Nat.eq_zero_of_not_pos hn, Nat.zero_mul]
      rfl

/-- another letter's field is not there: the text starts with a number and a different letter -/
theorem optField_other (L L' : Char) (hL' : L'.isDigit = false) (hne : L' ≠ L) (n : Nat) (rest : List Char)
    (hr : optField L rest = (none, rest)) :
    optField L ((if n > 0 then showNat n ++ [L'] else []) ++ rest) =
      (none, (if n > 0 then showNat n ++ [L'] else []) ++ rest) := by
  split
  · rw [List.append_assoc, List.singleton_append, optField_showNat L L' hL', if_neg hne]
  · exact hr

theorem optField_secText (L : Char) (hS : 'S' ≠ L) (hdot : '.' ≠ L) (s ns : Nat) :
    optField L (secText s ns) = (none, secText s ns) := by
  unfold secText
  split
  · split
    · rw [List.append_assoc, List.cons_append, optField_showNat L '.' (by decide), if_neg hdot]
    · rw [List.append_nil, optField_showNat L 'S' (by decide), if_neg hS]
  · rfl

theorem secField_secText (s ns : Nat) (hs : s < 60) (hns : ns < 1000000000) :
    ∃ v, optSeconds (secText s ns) = (v, []) ∧ secField v = .ok (s * secNs + ns) := by
  have hb : (s : Int) < two63 := by unfold two63; omega
  unfold secText
  by_cases hn : ns > 0
  · rw [if_pos (Or.inr hn), if_pos hn, List.append_assoc, List.cons_append]
    refine ⟨_, optSeconds_frac s _ (trim_digits _ (pad9_digits ns)) (trim_ne_nil _ ?_), ?_⟩
    · rw [decNat_pad9]
      omega
    · rw [secField, atoi_showNat s hb, fracNs_trim _ (pad9_length ns hns), decNat_pad9]
      rfl
  · rw [if_neg hn, List.append_nil, show ns = 0 by omega]
    by_cases h0 : s > 0
    · rw [if_pos (Or.inl h0)]
      refine ⟨_, optSeconds_whole s, ?_⟩
      rw [secField, atoi_showNat s hb]
      rfl
    · rw [if_neg (by omega), show s = 0 by omega]
      exact ⟨none, rfl, rfl⟩

theorem parseTime_timeText (h m s ns : Nat) (hh : (h : Int) < two63) (hm : m < 60) (hs : s < 60)
    (hns : ns < 1000000000) (hne : timeText h m s ns ≠ []) :
    parseTime (timeText h m s ns) = .ok (h * hourNs + m * minNs + (s * secNs + ns)) := by
  obtain ⟨vh, e1, f1⟩ := optField_field 'H' (by decide) h hourNs hh (minText m ++ secText s ns)
    (optField_other 'H' 'M' (by decide) (by decide) m _ (optField_secText 'H' (by decide) (by decide) s ns))
  obtain ⟨vm, e2, f2⟩ := optField_field 'M' (by decide) m minNs (by unfold two63; omega) (secText s ns)
    (optField_secText 'M' (by decide) (by decide) s ns)
  obtain ⟨vs, e3, f3⟩ := secField_secText s ns hs hns
  rw [parseTime, if_neg hne]
  unfold timeText hourText minText at *
  simp only [e1, e2, e3]
  simp [f1, f2, f3]

theorem timeText_no_nl (h m s ns : Nat) : '\n' ∉ timeText h m s ns := by
  have hd (n : Nat) : '\n' ∉ showNat n := fun h => by simpa using showNat_digits n _ h
  have ht : '\n' ∉ trimRightZeros (pad9 ns) := fun h => by simpa using trim_digits _ (pad9_digits ns) _ h
  simp [timeText, hourText, minText, secText, hd, ht]

theorem timeText_ne_nil (h m s ns : Nat) (hpos : h > 0 ∨ m > 0 ∨ s > 0 ∨ ns > 0) :
    timeText h m s ns ≠ [] := by
  simp [timeText, hourText, minText, secText, showNat_ne_nil]
  omega

theorem parse_sign (neg : Bool) (t : List Char) :
    parse ((if neg then ['-'] else []) ++ 'P' :: t) = parseP neg t := by
  cases neg <;> rfl

theorem parse_PT (neg : Bool) (h m s ns : Nat) (hh : (h : Int) < two63) (hm : m < 60) (hs : s < 60)
    (hns : ns < 1000000000) (hpos : h > 0 ∨ m > 0 ∨ s > 0 ∨ ns > 0) :
    parse ((if neg then ['-'] else []) ++ ('P' :: 'T' :: timeText h m s ns)) =
      .ok (wrap64 (if neg then -((h * hourNs + m * minNs + (s * secNs + ns) : Nat) : Int)
                   else ((h * hourNs + m * minNs + (s * secNs + ns) : Nat) : Int))) := by
  have hne := timeText_ne_nil h m s ns hpos
  have ht := parseTime_timeText h m s ns hh hm hs hns hne
  -- no date field begins with `T`; what follows it is the time text, being neither empty nor broken by a newline
  rw [parse_sign]
  simp [parseP, optField_nondigit, field_none, tPart, hne, timeText_no_nl, timeField, ht]

theorem wrap64_id (x : Int) (h1 : -two63 ≤ x) (h2 : x < two63) : wrap64 x = x := by
  unfold wrap64 two64
  unfold two63 at *
  omega

/-- hours, minutes, seconds and nanoseconds of `u` nanoseconds; not all are zero unless `u` is -/
theorem hms (u : Nat) :
    u / hourNs * hourNs + u % hourNs / minNs * minNs + (u % minNs / secNs * secNs + u % secNs) = u ∧
    u % hourNs / minNs < 60 ∧ u % minNs / secNs < 60 ∧ u % secNs < 1000000000 ∧
    (0 < u → u / hourNs > 0 ∨ u % hourNs / minNs > 0 ∨ u % minNs / secNs > 0 ∨ u % secNs > 0) := by
  unfold hourNs minNs secNs
  omega

end SamlVerif.Duration
