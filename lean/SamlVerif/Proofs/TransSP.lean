/-
  What the definitions regenerated from service_provider.go (`Generated/Trans.lean`: firstSet, validateAudienceRestriction,
  validateAssertion, validateLogoutResponse) decide.  A validator is walked forwards, the way it runs, `if` by `if`
  (`Outcome.exists_ok_ite`): every early `return err` contradicts one clause of the specification (`refuse`), and the run that
  falls through to `return nil` has established them all.  The loop bodies are never copied into this file: the lemmas about
  `forIn` take the body as found in the regenerated definition (`generalize`, unification), and the fact about it is proved
  pointwise.
-/
import SamlVerif.Generated.Trans
import SamlVerif.Proofs.GoInv
import SamlVerif.Proofs.SPStruct
open SamlVerif SamlVerif.GoSem

namespace SamlVerif.TransSP

theorem firstSet_eq (env : Trans.Env) (a b : String) : Trans.firstSet env a b = .ok (SP.firstSet a b) := by
  unfold Trans.firstSet SP.firstSet
  by_cases h : a = "" <;> simp [h]

/-- flag-setting loop without `break`: the flag ends up as the disjunction -/
theorem forIn_flag {α} (xs : List α) (p : α → Prop) [DecidablePred p] (init : Bool) :
    forIn (m := Outcome) xs init (fun x r => if p x then Outcome.ok (ForInStep.yield true) else Outcome.ok (ForInStep.yield r))
      = .ok (init || xs.any (fun x => decide (p x))) := by
  induction xs generalizing init with
  | nil => simp
  | cons x xs ih =>
    simp only [List.forIn_cons]
    by_cases h : p x <;> simp [h, ih]

/-- flag-setting loop with `break` -/
theorem forIn_flag_break {α} (xs : List α) (p : α → Prop) [DecidablePred p] (init : Bool) :
    forIn (m := Outcome) xs init (fun x r => if p x then Outcome.ok (ForInStep.done true) else Outcome.ok (ForInStep.yield r))
      = .ok (init || xs.any (fun x => decide (p x))) := by
  induction xs generalizing init with
  | nil => simp
  | cons x xs ih =>
    simp only [List.forIn_cons]
    by_cases h : p x <;> simp [h, ih]

/-- what one pass through a loop body decides: `some r` = the function returns `r` there -/
def vOf {α ρ : Type} (B : α → (Option ρ × PUnit) → Outcome (ForInStep ((Option ρ × PUnit)))) (x : α) : Option ρ :=
  match B x ⟨none, ()⟩ with
  | .ok (.done ⟨some r, _⟩) => some r
  | _ => none

/-- a range loop whose body either goes on or returns from the function (never panics, never `break`s) -/
theorem forIn_early {α ρ : Type} (xs : List α) (B : α → (Option ρ × PUnit) → Outcome (ForInStep ((Option ρ × PUnit))))
    (hB : ∀ x, B x ⟨none, ()⟩ = .ok (.yield ⟨none, ()⟩) ∨ ∃ r, B x ⟨none, ()⟩ = .ok (.done ⟨some r, ()⟩)) :
    forIn xs ⟨none, ()⟩ B = .ok ⟨xs.findSome? (vOf B), ()⟩ := by
  induction xs with
  | nil => simp
  | cons x xs ih =>
    simp only [List.forIn_cons, List.findSome?_cons]
    rcases hB x with h | ⟨r, h⟩
    · simp only [h, Outcome.ok_bind', vOf]
      exact ih
    · simp [h, vOf]

/-- a check that fails: the error it returns is not nil, and the specification does not hold -/
theorem refuse {P : Prop} {s : String} (h : ¬ P) : ∃ e, Outcome.ok (some s) = .ok e ∧ (e = none ↔ P) :=
  ⟨_, rfl, nofun, fun hp => absurd hp h⟩

def absSC (s : Trans.SubjectConfirmation) : SP.SubjConf :=
  { data := s.SubjectConfirmationData.map fun d => { inResponseTo := d.InResponseTo, recipient := d.Recipient, notOnOrAfter := d.NotOnOrAfter } }
/-- `ident`, the identity payload, is not read by the validator -/
def absA (a : Trans.Assertion) : SP.AssertionS :=
  { issueInstant := a.IssueInstant, issuer := a.Issuer.Value,
    subject := a.Subject.map fun s => s.SubjectConfirmations.map absSC,
    conditions := a.Conditions.map fun c => { notBefore := c.NotBefore, notOnOrAfter := c.NotOnOrAfter, audiences := c.AudienceRestrictions.map (·.Audience.Value) },
    ident := "" }
def absCfg (env : Trans.Env) (sp : Trans.ServiceProvider) (idp : Trans.EntityDescriptor) : SP.Cfg :=
  { idpEntityID := idp.EntityID, acsURL := sp.AcsURL.str, entityID := sp.EntityID, metadataURL := sp.MetadataURL.str,
    allowIdP := sp.AllowIDPInitiated, reqIdValidator := none, audValidator := none,
    delay := env.MaxIssueDelay, skew := env.MaxClockSkew, statusSuccess := env.StatusSuccess }

/-- what `validateAssertion` asks of one subject confirmation (C02 / C03 / C04) -/
def ConfChecks (env : Trans.Env) (sp : Trans.ServiceProvider) (ids : List String) (now : Int)
    (sc : Trans.SubjectConfirmation) : Prop :=
  ∃ d, sc.SubjectConfirmationData = some d ∧ (sp.AllowIDPInitiated = true ∨ d.InResponseTo ∈ ids) ∧
    d.Recipient = sp.AcsURL.str ∧ now ≤ d.NotOnOrAfter + env.MaxClockSkew

/-- what `validateAssertion` asks of an assertion, in the words of the Go structures -/
def AssertionChecks (env : Trans.Env) (sp : Trans.ServiceProvider) (idp : Trans.EntityDescriptor) (a : Trans.Assertion)
    (ids : List String) (now : Int) : Prop :=
  now ≤ a.IssueInstant + env.MaxIssueDelay ∧ a.Issuer.Value = idp.EntityID ∧
  (∃ s, a.Subject = some s ∧ ∀ sc ∈ s.SubjectConfirmations, ConfChecks env sp ids now sc) ∧
  (∃ c, a.Conditions = some c ∧ c.NotBefore - env.MaxClockSkew ≤ now ∧ now ≤ c.NotOnOrAfter + env.MaxClockSkew ∧
    (c.AudienceRestrictions = [] ∨
      ∃ r ∈ c.AudienceRestrictions, r.Audience.Value = SP.firstSet sp.EntityID sp.MetadataURL.str))

theorem scValid_abs (env : Trans.Env) (sp : Trans.ServiceProvider) (idp : Trans.EntityDescriptor) (ids : List String) (now : Int)
    (sc : Trans.SubjectConfirmation) :
    SP.SCValid (absCfg env sp idp) now ids (absSC sc) ↔ ConfChecks env sp ids now sc := by
  refine Iff.trans ⟨SP.SCValid.ex, SP.SCValid.mk⟩ ?_
  simp only [ConfChecks, absSC, absCfg]
  cases sc.SubjectConfirmationData <;> cases sp.AllowIDPInitiated <;> simp

theorem assertionValid_abs (env : Trans.Env) (sp : Trans.ServiceProvider) (idp : Trans.EntityDescriptor) (a : Trans.Assertion)
    (ids : List String) (now : Int) :
    SP.AssertionValid (absCfg env sp idp) now ids (absA a) ↔ AssertionChecks env sp idp a ids now := by
  have spec : SP.AssertionValid (absCfg env sp idp) now ids (absA a) ↔ _ ∧ _ ∧ _ ∧ _ :=
    ⟨fun ⟨h1, h2, h3, h4⟩ => ⟨h1, h2, h3, h4⟩, fun ⟨h1, h2, h3, h4⟩ => ⟨h1, h2, h3, h4⟩⟩
  rw [spec]
  simp only [AssertionChecks, absA, ← scValid_abs env sp idp]
  cases a.Subject <;> cases a.Conditions <;> simp [SP.AudienceOK, SP.Cfg.audience, absCfg]

theorem validateAudienceRestriction_spec (env : Trans.Env) (sp : Trans.ServiceProvider) (a : Trans.Assertion) (c : Trans.Conditions)
    (h : sp.ValidateAudienceRestriction = none) (hc : a.Conditions = some c) :
    ∃ e, Trans.validateAudienceRestriction env sp (some a) = .ok e ∧
      (e = none ↔ c.AudienceRestrictions = [] ∨
        ∃ r ∈ c.AudienceRestrictions, r.Audience.Value = SP.firstSet sp.EntityID sp.MetadataURL.str) := by
  unfold Trans.validateAudienceRestriction
  simp only [h, hc, Option.isSome_none, Bool.false_eq_true, if_false, deref_some, Outcome.ok_bind', firstSet_eq, forIn_flag,
    Outcome.pure_eq_ok]
  exact Outcome.exists_ok_ite (fun hb => refuse (by simpa using hb))
    fun hb => ⟨none, rfl, iff_of_true rfl (by simpa [Decidable.or_iff_not_imp_left] using hb)⟩

theorem validateAssertion_spec (env : Trans.Env) (sp : Trans.ServiceProvider) (idp : Trans.EntityDescriptor) (a : Trans.Assertion)
    (ids : List String) (now : Int)
    (hidp : sp.IDPMetadata = some idp) (hv : sp.ValidateAudienceRestriction = none) :
    ∃ e, Trans.validateAssertion env sp (some a) ids now = .ok e ∧ (e = none ↔ AssertionChecks env sp idp a ids now) := by
  unfold Trans.validateAssertion
  simp only [hidp, deref_some, Outcome.ok_bind']
  refine Outcome.exists_ok_ite (fun h => refuse fun hq => by have := hq.1; omega) fun h1 => ?_
  refine Outcome.exists_ok_ite (fun h => refuse fun hq => bne_iff_ne.1 h hq.2.1) fun h2 => ?_
  cases hs : a.Subject with
  | none => exact refuse fun ⟨_, _, ⟨_, h, _⟩, _⟩ => nomatch hs ▸ h
  | some s =>
    simp only [Option.isNone_some, Bool.false_eq_true, if_false, deref_some, Outcome.ok_bind']
    -- the loop over the confirmations: each pass either goes on, having checked its confirmation, or returns an error
    generalize hL : forIn (m := Outcome) s.SubjectConfirmations ((none : Option GoError), ()) _ = L
    refine (forIn_checks s.SubjectConfirmations _ (ConfChecks env sp ids now) _ hL ?_).elim ?_ ?_
    · intro sc
      cases hd : sc.SubjectConfirmationData with
      | none =>
        simp only [Option.isNone_none, if_true, Outcome.pure_eq_ok]
        exact ⟨_, rfl, .inr ⟨_, rfl, fun ⟨_, h, _⟩ => nomatch hd ▸ h⟩⟩
      | some d =>
        have hsc : ConfChecks env sp ids now sc ↔ (sp.AllowIDPInitiated = true ∨ d.InResponseTo ∈ ids) ∧
            d.Recipient = sp.AcsURL.str ∧ now ≤ d.NotOnOrAfter + env.MaxClockSkew := by
          simp [ConfChecks, hd]
        simp only [Option.isNone_some, Bool.false_eq_true, if_false, deref_some, Outcome.ok_bind', Outcome.pure_eq_ok,
          forIn_flag_break, ite_ite_else, hsc]
        refine Outcome.exists_ok_ite (fun h => ⟨_, rfl, .inr ⟨_, rfl, fun hq => ?_⟩⟩) fun h1 => ?_
        · have h : sp.AllowIDPInitiated = false ∧ ∀ x ∈ ids, ¬d.InResponseTo = x := by simpa using h
          exact hq.1.elim (by simp [h.1]) fun hm => h.2 _ hm rfl
        refine Outcome.exists_ok_ite (fun h => ⟨_, rfl, .inr ⟨_, rfl, fun hq => bne_iff_ne.1 h hq.2.1⟩⟩) fun h2 => ?_
        refine Outcome.exists_ok_ite (fun h => ⟨_, rfl, .inr ⟨_, rfl, fun hq => by omega⟩⟩) fun h3 => ?_
        refine ⟨_, rfl, .inl ⟨rfl, ?_, by simpa using h2, by omega⟩⟩
        have h1 : sp.AllowIDPInitiated = false → d.InResponseTo ∈ ids := by simpa using h1
        exact (Bool.eq_false_or_eq_true _).imp id h1
    · rintro ⟨rfl, hall⟩
      simp only [Outcome.ok_bind']
      cases hc : a.Conditions with
      | none => exact refuse fun ⟨_, _, _, _, h, _⟩ => nomatch hc ▸ h
      | some c =>
        have hcond : ∀ {p : Trans.Conditions → Prop}, (∃ c', a.Conditions = some c' ∧ p c') → p c :=
          fun ⟨_, h, hp⟩ => by cases hc.symm.trans h; exact hp
        simp only [Option.isNone_some, Bool.false_eq_true, if_false, deref_some, Outcome.ok_bind']
        refine Outcome.exists_ok_ite (fun h => refuse fun hq => by have := (hcond hq.2.2.2).1; omega) fun h3 => ?_
        refine Outcome.exists_ok_ite (fun h => refuse fun hq => by have := (hcond hq.2.2.2).2.1; omega) fun h4 => ?_
        obtain ⟨e, he, hiff⟩ := validateAudienceRestriction_spec env sp a c hv hc
        rw [he]
        cases e with
        | some e' => exact refuse fun hq => nomatch hiff.2 (hcond hq.2.2.2).2.2
        | none =>
          exact ⟨none, rfl, iff_of_true rfl
            ⟨Int.not_lt.1 h1, by simpa using h2, ⟨s, hs, hall⟩, c, hc, by omega, Int.not_lt.1 h4, hiff.1 rfl⟩⟩
    · rintro ⟨e, rfl, hnot⟩
      exact refuse fun ⟨_, _, ⟨_, hs', hall⟩, _⟩ => hnot (by cases hs.symm.trans hs'; exact hall)

theorem validateLogoutResponse_spec (env : Trans.Env) (sp : Trans.ServiceProvider) (idp : Trans.EntityDescriptor)
    (r : Trans.LogoutResponse) (hidp : sp.IDPMetadata = some idp) :
    ∃ e, Trans.validateLogoutResponse env sp (some r) = .ok e ∧ (e = none ↔
      (r.Destination = sp.SloURL.str ∧ env.timeNow ≤ r.IssueInstant + env.MaxIssueDelay ∧
        (∃ i, r.Issuer = some i ∧ i.Value = idp.EntityID) ∧ r.Status.StatusCode.Value = env.StatusSuccess)) := by
  unfold Trans.validateLogoutResponse
  simp only [hidp, deref_some, Outcome.ok_bind', Outcome.pure_eq_ok]
  refine Outcome.exists_ok_ite (fun h => refuse fun hq => bne_iff_ne.1 h hq.1) fun h1 => ?_
  refine Outcome.exists_ok_ite (fun h => refuse fun hq => by omega) fun h2 => ?_
  cases hi : r.Issuer with
  | none => exact refuse fun hq => nomatch hq.2.2.1
  | some i =>
    simp only [deref_some, Outcome.ok_bind', Option.isNone_some, Bool.false_eq_true, if_false]
    refine Outcome.exists_ok_ite (fun h => refuse fun ⟨_, _, ⟨_, h', hv⟩, _⟩ => by cases h'; exact bne_iff_ne.1 h hv)
      fun h3 => ?_
    refine Outcome.exists_ok_ite (fun h => refuse fun hq => bne_iff_ne.1 h hq.2.2.2) fun h4 => ?_
    exact ⟨none, rfl, iff_of_true rfl
      ⟨by simpa using h1, Int.not_lt.1 h2, ⟨i, rfl, by simpa using h3⟩, by simpa using h4⟩⟩

end SamlVerif.TransSP
