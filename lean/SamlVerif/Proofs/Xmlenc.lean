import SamlVerif.Model.Xmlenc
import SamlVerif.Proofs.Outcome

namespace SamlVerif.Xmlenc

theorem appendPadding_length (p : Bytes) (bs : Nat) (h : 0 < bs) :
    (appendPadding p bs).length = (p.length / bs + 1) * bs := by
  have := Nat.mod_lt p.length h
  have := Nat.div_add_mod' p.length bs
  simp only [appendPadding, List.length_append, List.length_replicate, List.length_cons, List.length_nil,
    Nat.add_mul, Nat.one_mul]
  omega

theorem appendPadding_length_mod (p : Bytes) (bs : Nat) (h : 0 < bs) :
    (appendPadding p bs).length % bs = 0 := by
  rw [appendPadding_length p bs h, Nat.mul_mod_left]

theorem stripPadding_eq_ok (buf p : Bytes) (h : stripPadding buf = .ok p) :
    ∃ n, 1 ≤ n ∧ n ≤ buf.length ∧ p = buf.take (buf.length - n) := by
  revert h
  fun_cases stripPadding buf with
  | case4 last _ h1 h2 => exact fun h => ⟨last.toNat, by omega, by omega, (Outcome.ok.inj h).symm⟩
  | _ => nofun

/-- The padding bytes before the last need not be zero: only the last byte, which counts them, is read. -/
theorem stripPadding_append (p pad : Bytes) (b : UInt8) (h : b.toNat = pad.length + 1) :
    stripPadding (p ++ pad ++ [b]) = .ok p := by
  simp [stripPadding, h]

theorem strip_append (p : Bytes) (bs : Nat) (h0 : 0 < bs) (h255 : bs ≤ 255) :
    stripPadding (appendPadding p bs) = .ok p := by
  have := Nat.mod_lt p.length h0
  exact stripPadding_append p _ _ (by rw [UInt8.toNat_ofNat', List.length_replicate]; omega)

/-- the pinned off-by-one: the padding of the empty plaintext is rejected -/
theorem stripPaddingPinned_rejects_empty :
    stripPaddingPinned (appendPadding [] 16) = .err "pad-short" := rfl

@[simp] theorem stripPadding_ne_panic (buf : Bytes) (w : String) : stripPadding buf ≠ .panic w := by
  fun_cases stripPadding buf <;> simp

theorem stripPadding_length_lt (buf p : Bytes) (h : stripPadding buf = .ok p) : p.length < buf.length := by
  obtain ⟨n, h1, h2, rfl⟩ := stripPadding_eq_ok buf p h
  rw [List.length_take]
  omega

@[simp] theorem chunks_length (bs k : Nat) (l : Bytes) : (chunks bs k l).length = k := by
  induction k generalizing l <;> simp [chunks, *]

theorem chunks_spec (bs k : Nat) (l : Bytes) (h : l.length = k * bs) :
    (∀ b ∈ chunks bs k l, b.length = bs) ∧ (chunks bs k l).flatten = l := by
  induction k generalizing l with
  | zero => simpa [chunks] using h
  | succ k ih =>
    rw [Nat.succ_mul] at h
    have ⟨h1, h2⟩ := ih (l.drop bs) (by rw [List.length_drop, h, Nat.add_sub_cancel])
    rw [chunks, List.forall_mem_cons, List.flatten_cons, h2, List.take_append_drop, List.length_take]
    exact ⟨⟨Nat.min_eq_left (by omega), h1⟩, rfl⟩

theorem chunks_flatten (bs : Nat) (bl : List Bytes) (h : ∀ b ∈ bl, b.length = bs) :
    chunks bs bl.length bl.flatten = bl := by
  induction bl with
  | nil => rfl
  | cons b rest ih =>
    rw [List.forall_mem_cons] at h
    rw [List.length_cons, chunks, List.flatten_cons, List.take_left' h.1, List.drop_left' h.1, ih h.2]

theorem flatten_length_uniform (bs : Nat) (bl : List Bytes) (h : ∀ b ∈ bl, b.length = bs) :
    bl.flatten.length = bl.length * bs := by
  rw [List.length_flatten, List.map_eq_replicate_iff.mpr h, List.sum_replicate_nat]

theorem xor_cancel : ∀ (a b : Bytes), a.length = b.length → xor (xor a b) b = a
  | [], _, _ => by simp [xor]
  | x :: a, y :: b, h => by
    have := xor_cancel a b (by simpa using h)
    simp only [xor, List.zipWith_cons_cons, List.cons.injEq] at this ⊢
    exact ⟨by rw [UInt8.xor_assoc, UInt8.xor_self, UInt8.xor_zero], this⟩

/-- hypotheses on the abstract block cipher: a length-preserving permutation of blocks -/
structure Block.Good (c : Block) : Prop where
  pos : 0 < c.bs
  small : c.bs ≤ 255
  lenE : ∀ b, b.length = c.bs → (c.E b).length = c.bs
  inv : ∀ b, b.length = c.bs → c.D (c.E b) = b

theorem cbcEncBlocks_spec {c : Block} (hc : c.Good) : ∀ (ps : List Bytes) (prev : Bytes),
    prev.length = c.bs → (∀ p ∈ ps, p.length = c.bs) →
    (∀ b ∈ cbcEncBlocks c prev ps, b.length = c.bs) ∧ cbcDecBlocks c prev (cbcEncBlocks c prev ps) = ps
  | [], _, _, _ => ⟨nofun, rfl⟩
  | p :: ps, prev, hv, h => by
    rw [List.forall_mem_cons] at h
    have hx : (xor p prev).length = c.bs := by simp [xor, h.1, hv]
    have ⟨h1, h2⟩ := cbcEncBlocks_spec hc ps _ (hc.lenE _ hx) h.2
    rw [cbcEncBlocks, cbcDecBlocks, List.forall_mem_cons, hc.inv _ hx, xor_cancel _ _ (h.1.trans hv.symm), h2]
    exact ⟨⟨hc.lenE _ hx, h1⟩, rfl⟩

theorem cbcDecrypt_append (c : Block) (hpos : 0 < c.bs) (iv : Bytes) (bl : List Bytes)
    (hiv : iv.length = c.bs) (hbl : ∀ b ∈ bl, b.length = c.bs) :
    cbcDecrypt c (iv ++ bl.flatten) = stripPadding (cbcDecBlocks c iv bl).flatten := by
  have hfl := flatten_length_uniform _ _ hbl
  have h1 : ¬ (iv ++ bl.flatten).length < c.bs := by simp [hiv]
  have h2 : ¬ (iv ++ bl.flatten).length % c.bs ≠ 0 := by simp [hiv, hfl]
  rw [cbcDecrypt, if_neg h1, if_neg h2]
  simp only [List.take_left' hiv, List.drop_left' hiv, hfl, Nat.mul_div_cancel _ hpos, chunks_flatten _ _ hbl]

/-- the CBC round trip with the padding taken out -/
theorem cbcDecrypt_cbcEncBlocks {c : Block} (hc : c.Good) {iv : Bytes} (hiv : iv.length = c.bs)
    (ps : List Bytes) (hps : ∀ p ∈ ps, p.length = c.bs) :
    cbcDecrypt c (iv ++ (cbcEncBlocks c iv ps).flatten) = stripPadding ps.flatten := by
  have ⟨hen, hde⟩ := cbcEncBlocks_spec hc ps iv hiv hps
  rw [cbcDecrypt_append c hc.pos iv _ hiv hen, hde]

theorem cbc_roundtrip (c : Block) (hc : c.Good) (iv : Bytes) (hiv : iv.length = c.bs) (p : Bytes) :
    cbcDecrypt c (cbcEncrypt c iv p) = .ok p := by
  have hk := appendPadding_length p c.bs hc.pos
  have ⟨hch, hfc⟩ := chunks_spec _ _ _ hk
  simp only [cbcEncrypt, hk, Nat.mul_div_cancel _ hc.pos]
  rw [cbcDecrypt_cbcEncBlocks hc hiv _ hch, hfc, strip_append p c.bs hc.pos hc.small]

@[simp] theorem cbcDecrypt_ne_panic (c : Block) (ct : Bytes) (w : String) : cbcDecrypt c ct ≠ .panic w := by
  fun_cases cbcDecrypt c ct <;> simp

structure Aead.Good (a : Aead) : Prop where
  openSeal : ∀ n p, n.length = a.nonceSize → a.openF n (a.sealF n p) = some p
  /-- authenticity: only sealed values open -/
  auth : ∀ n c p, a.openF n c = some p → c = a.sealF n p

theorem gcmDecrypt_eq_ok_iff (a : Aead) (ct p : Bytes) :
    gcmDecrypt a ct = .ok p ↔
      a.nonceSize ≤ ct.length ∧ a.openF (ct.take a.nonceSize) (ct.drop a.nonceSize) = some p := by
  unfold gcmDecrypt
  by_cases h : ct.length < a.nonceSize
  · simp [h, Nat.not_le.mpr h]
  · rw [if_neg h]
    cases a.openF (ct.take a.nonceSize) (ct.drop a.nonceSize) <;> simp [Nat.not_lt.mp h]

@[simp] theorem gcmDecrypt_ne_panic (a : Aead) (ct : Bytes) (w : String) : gcmDecrypt a ct ≠ .panic w := by
  fun_cases gcmDecrypt a ct <;> simp

theorem eq_gcmEncryptSpec_of_gcmDecrypt (a : Aead) (ha : a.Good) (ct p : Bytes) (h : gcmDecrypt a ct = .ok p) :
    ct = gcmEncryptSpec a (ct.take a.nonceSize) p := by
  rw [gcmEncryptSpec, ← ha.auth _ _ _ ((gcmDecrypt_eq_ok_iff a ct p).mp h).2, List.take_append_drop]

theorem ctorAccepts_bs (ctor : String) (keySize : Nat) :
    ∀ bs, ctorAccepts ctor keySize = some bs → bs = 8 ∨ bs = 16 := by
  fun_cases ctorAccepts ctor keySize <;> simp

@[simp] theorem getCiphertext_ne_panic (l : Layer) (w : String) : getCiphertext l ≠ .panic w := by
  fun_cases getCiphertext l <;> simp

@[simp] theorem rsaDecrypt_ne_panic (env : Env) (s : RsaScheme) (key : Key) (l : Layer) (w : String) :
    rsaDecrypt env s key l ≠ .panic w := by
  fun_cases rsaDecrypt env s key l <;> simp_all

/-- Nested `EncryptedKey` layers (of any depth and kind) under a block-cipher layer contribute only the key
    they decrypt to. -/
theorem decrypt_nested {env : Env} {key : Key} {inner : List Layer} {alg : String} {f : BlockCipherFact}
    {kb : Bytes} (hreg : env.lookup alg = some (.block f)) (hinner : decrypt env key inner = .ok kb)
    (dg : Option String) (cert : Option Bool) (cv : CipherVal) :
    decrypt env key (⟨some alg, dg, cert, cv⟩ :: inner) = decrypt env (.bytes kb) [⟨some alg, dg, cert, cv⟩] := by
  cases inner with
  | nil => cases hinner
  | cons _ _ =>
    rw [decrypt, decrypt]
    simp only [hreg, hinner, Outcome.map]

end SamlVerif.Xmlenc
