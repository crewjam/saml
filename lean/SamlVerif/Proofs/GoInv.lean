/-
  Reading a run of translated Go code backwards (`Generated/Trans*.lean`, run-time support `Model/GoSem.lean`).

  For `h : f … = .ok r`: `unfold f at h; simp only [go_inv] at h` turns `h` into the tree of the runs of `f` that return `r`:
  `∃ a, call = .ok a ∧ …` for every call, `c ∧ … ∨ ¬c ∧ …` for every `if` (the Go condition as a proposition, the true arm
  first), the components of `r` equated at the leaves (a tuple: one equation per component, left to right), leaves that return
  another literal (`some e = none`) gone.  One `rcases` pattern then follows the control flow.
  * `if err != nil`: the normal form is `err ≠ none` / `err = none`; take `rfl` for the second in the pattern, and
    `Option.ne_none_iff_exists'.1` where the first has to give a witness.  A leaf `return nil, err` under the first is no literal:
    for `r = (_, none)` it stays as `¬err = none ∧ … ∧ err = none`, closed by `absurd`.
  * `*p`, `p.f`: `deref p = .ok a` becomes `p = some a`, so a nil pointer needs no case of its own.  A pointer read n times gives n
    such equations: substitute the first, then `simp only [Option.some.injEq, exists_eq_left'] at h` merges the others (a theorem
    stated about `f (some x)` has none).  A call through an optional hook, `(← deref m.Hook) args`, is four components: the
    function, `m.Hook = some f`, the result, the equation of the call.
  * `x != nil && x.f != v`: rewrite with the short-circuit lemmas below first; or, where only the run that answered `false`
    matters, state once what it gives, from the disjunction as `go_inv` leaves it (`TransSP.issuer_checked`, Props/TransParse.lean).
  * Join points.  An `if` that does not return, followed by more code, makes the `do` block bind that code as `__do_jp`, and
    unfolding would copy it into every branch.  Run `extract_lets at h` bare once and read the context: it lifts, in order, every
    `let` whose value is closed — the join points, but also initial values of `let mut`s, assigned literals, discarded errors; one
    stays folded until `simp` is handed its name.  Name them (`extract_lets _ _ tail at h`), state what a run of a join point gives
    (`have htail : ∀ x, tail () x = .ok r → …`, by `simp only [tail, go_inv]`), and invert the rest: `tail () x = .ok r` stays an
    atom at the leaves.
  * Two branches that go on alike: `have h : A ∧ _ := h.elim (fun h => ⟨…, h.2⟩) (fun h => ⟨…, h.2⟩)`, then one pattern.
  Loops: a body that cannot fail is a fold or a search (`forIn_fold`, `forIn_find`, `forIn_find_nested`; a flag set on the way:
  `forIn_flag`, `forIn_flag_break`, a `return` from inside: `forIn_early`, all in Proofs/TransSP.lean; the last with a state:
  `forIn_search`, Proofs/TransIdP.lean) or, when every pass is a check that may `return err`, a conjunction (`forIn_checks`); one
  that calls out keeps an invariant (`forIn_inv`).
  That a function returns at all is not read off a run: totality and refinement walk it forwards, `if` by `if`
  (`Outcome.exists_ok_ite`; Proofs/TransSP.lean).
-/
import SamlVerif.Model.GoSem
import SamlVerif.Proofs.Outcome
import SamlVerif.Proofs.GoInvAttr

namespace SamlVerif.GoSem
universe u v

@[go_inv] theorem deref_eq_ok {α} {p : Option α} {a : α} : deref p = .ok a ↔ p = some a := by
  cases p <;> simp [deref]

@[go_inv] theorem index_eq_ok {α} {xs : List α} {i : Int} {a : α} :
    index xs i = .ok a ↔ 0 ≤ i ∧ xs[i.toNat]? = some a := by
  unfold index
  cases xs[i.toNat]? <;> simp [ite_eq_iff']

@[go_inv] theorem none_eq_some {α} {a : α} : (none = some a) = False := eq_false nofun

-- running, and comparing results
attribute [go_inv] Outcome.bind_eq_ok ite_eq_iff' Outcome.ok_bind' Outcome.pure_eq_ok deref_some Outcome.ok.injEq
  Prod.mk.injEq Prod.exists Option.some.injEq List.nil_append List.cons_append
-- Go conditions as propositions
attribute [go_inv] Option.isSome_iff_ne_none Option.isNone_iff_eq_none Bool.and_eq_true Bool.or_eq_true Bool.not_eq_true'
  Bool.not_eq_false bne_iff_ne beq_iff_eq beq_eq_false_iff_ne ne_eq Decidable.not_not
-- leaves that cannot be
attribute [go_inv] Option.some_ne_none Bool.false_eq_true Bool.true_eq_false and_false false_and or_false false_or and_true
  true_and not_true_eq_false not_false_eq_true exists_false exists_eq_right exists_eq_left'

/-! Go's short-circuit operators, as the translator writes them.  Rewrite with these in a `simp only` of its own *before*
    `go_inv`: inside one call they lose to `bind_eq_ok` and `ite_eq_iff'`. -/

/-- `p != nil && *p` -/
theorem derefOr_false (o : Option Bool) :
    (if o.isSome = true then deref o else Outcome.ok false) = .ok (o == some true) := by
  rcases o with _ | _ | _ <;> rfl

/-- a check nested in a condition, `if a { if b { return x } }; y`, is one check -/
theorem ite_ite_else {α} {a b : Prop} [Decidable a] [Decidable b] {x y : α} :
    (if a then (if b then x else y) else y) = if a ∧ b then x else y := by
  split <;> simp [*]

/-- the same with the translator's Boolean conditions: `if a && b { x } else { y }` -/
theorem ite_ite_and {α : Type} (a b : Bool) (x y : α) :
    (if a = true then (if b = true then x else y) else y) = if (a && b) = true then x else y := by
  simp only [ite_ite_else, Bool.and_eq_true]

/-- `a || f()`, the right operand evaluated only when the left is false -/
theorem ite_true_or {a b : Bool} : (if a = true then Outcome.ok true else Outcome.ok b) = .ok (a || b) := by
  cases a <;> rfl

/-- a loop whose body neither fails, breaks nor returns is a fold -/
theorem forIn_fold {α : Type u} {σ : Type} (xs : List α) (s : σ) (B : α → σ → Outcome (ForInStep σ)) (f : σ → α → σ)
    (hB : ∀ x ∈ xs, ∀ s, B x s = .ok (.yield (f s x))) : forIn xs s B = .ok (xs.foldl f s) := by
  induction xs generalizing s with
  | nil => rfl
  | cons x xs ih =>
    simp only [List.forIn_cons, hB x List.mem_cons_self, Outcome.ok_bind', List.foldl_cons]
    exact ih _ fun y hy => hB y (List.mem_cons_of_mem _ hy)

/-- `xs = append(xs, f(x))` in a loop -/
theorem forIn_collect {α β : Type} (xs : List α) (acc : List β) (f : α → β) :
    forIn xs acc (fun x s => (Outcome.ok (ForInStep.yield (s ++ [f x])) : Outcome (ForInStep (List β)))) = .ok (acc ++ xs.map f) := by
  induction xs generalizing acc with
  | nil => simp
  | cons x xs ih => simp only [List.forIn_cons, Outcome.ok_bind', ih, List.map_cons]; simp

/-- a search loop: from `s` the body goes on, leaving `s` as it is, until the first `x` with `p x`, and stops there with `g x` -/
theorem forIn_find {α : Type u} {σ : Type} (xs : List α) (s : σ) (B : α → σ → Outcome (ForInStep σ)) (p : α → Bool)
    (g : α → σ) (hB : ∀ x ∈ xs, B x s = .ok (if p x then .done (g x) else .yield s)) :
    forIn xs s B = .ok (match xs.find? p with | some x => g x | none => s) := by
  induction xs with
  | nil => rfl
  | cons x xs ih =>
    simp only [List.forIn_cons, hB x List.mem_cons_self, Outcome.ok_bind', List.find?_cons]
    cases p x with
    | true => rfl
    | false => exact ih fun y hy => hB y (List.mem_cons_of_mem _ hy)

/-- the same for a loop over `ds` whose body searches `g d`: the first hit, in document order over all the `g d` -/
theorem forIn_find_nested {δ : Type u} {α : Type v} {σ : Type} (ds : List δ) (g : δ → List α) (s : σ)
    (B : δ → σ → Outcome (ForInStep σ)) (p : α → Bool) (r : δ × α → σ)
    (hB : ∀ d ∈ ds, B d s = .ok (match (g d).find? p with | some e => .done (r (d, e)) | none => .yield s)) :
    forIn ds s B =
      .ok (match (ds.flatMap fun d => (g d).map (d, ·)).find? (fun q => p q.2) with | some q => r q | none => s) := by
  induction ds with
  | nil => rfl
  | cons d ds ih =>
    simp only [List.forIn_cons, hB d List.mem_cons_self, Outcome.ok_bind', List.flatMap_cons, List.find?_append,
      List.find?_map, Function.comp_def]
    cases (g d).find? p with
    | some e => rfl
    | none => exact ih fun y hy => hB y (List.mem_cons_of_mem _ hy)

/-- searching the pairs `forIn_find_nested` speaks of, for the second component -/
theorem find?_pairs {δ α : Type} (ds : List δ) (g : δ → List α) (p : α → Bool) :
    ((ds.flatMap fun d => (g d).map (d, ·)).find? (fun q => p q.2)).map (·.2) = (ds.flatMap g).find? p := by
  refine (List.find?_map (f := Prod.snd) (p := p)).symm.trans ?_
  simp [List.map_flatMap, Function.comp_def]

/-- a loop of checks that returns at the first failure: it runs through exactly when every element passes.  `L` stands for
    the loop as it is found in the goal (`generalize hL : forIn … = L`), so that `B` never has to be written out. -/
theorem forIn_checks {α : Type u} (xs : List α) (B : α → (Option GoError × PUnit) → Outcome (ForInStep (Option GoError × PUnit)))
    (P : α → Prop) (L : Outcome (Option GoError × PUnit)) (hL : forIn xs ⟨none, ()⟩ B = L)
    (hB : ∀ x, ∃ st, B x ⟨none, ()⟩ = .ok st ∧
      (st = .yield ⟨none, ()⟩ ∧ P x ∨ ∃ e, st = .done ⟨some (some e), ()⟩ ∧ ¬ P x)) :
    (L = .ok ⟨none, ()⟩ ∧ ∀ x ∈ xs, P x) ∨ ∃ e, L = .ok ⟨some (some e), ()⟩ ∧ ¬ ∀ x ∈ xs, P x := by
  subst hL
  induction xs with
  | nil => exact .inl ⟨rfl, nofun⟩
  | cons x xs ih =>
    simp only [List.forIn_cons, List.forall_mem_cons]
    obtain ⟨st, hb, ⟨rfl, hp⟩ | ⟨e, rfl, hp⟩⟩ := hB x
    · simpa only [hb, hp, Outcome.ok_bind', true_and] using ih
    · exact .inr ⟨e, by simp only [hb, Outcome.ok_bind', Outcome.pure_eq_ok], fun h => hp h.1⟩

theorem forIn_inv {α : Type u} {σ : Type} (xs : List α) (B : α → σ → Outcome (ForInStep σ)) (I : σ → Prop)
    (hB : ∀ x ∈ xs, ∀ s, I s → ∀ r, B x s = .ok r → I (match r with | .yield s' => s' | .done s' => s')) :
    ∀ s0, I s0 → ∀ r, forIn xs s0 B = .ok r → I r := by
  induction xs with
  | nil => intro s0 h0 r hr; cases hr; exact h0
  | cons x xs ih =>
    intro s0 h0 r hr
    simp only [List.forIn_cons, Outcome.bind_eq_ok] at hr
    obtain ⟨st, hb, hr⟩ := hr
    have hI := hB x List.mem_cons_self s0 h0 st hb
    cases st with
    | done s' => cases hr; exact hI
    | yield s' => exact ih (fun y hy => hB y (List.mem_cons_of_mem _ hy)) s' hI r hr

end SamlVerif.GoSem
