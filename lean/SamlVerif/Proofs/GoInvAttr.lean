import Lean.Meta.Tactic.Simp.RegisterCommand

/-- inversion of a run of translated Go code (`Proofs/GoInv.lean`) -/
register_simp_attr go_inv
