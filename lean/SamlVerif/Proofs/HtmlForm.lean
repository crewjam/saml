/-
  The quote structure of a rendered form is the template's own.

  An HTML tokenizer that is inside a tag reads a double-quoted attribute value up to the next `"`;
  the templates of the library put every interpolated string either inside such a value or directly
  after a tag.  `pieces` cuts a document at every `"`.  `skel` computes, from the template alone, the
  list of pieces with *holes* where values go.  `pieces_render`: for every data, the pieces of the
  rendered document are the skeleton with each hole filled by the escaped value — no value can add,
  remove or move a quote, so no value can end its attribute, start another one, or change which
  static text sits where.
-/
import SamlVerif.Proofs.Html

namespace SamlVerif.Html

/-- the document cut at every `"` (never the empty list) -/
def pieces : Bytes → List Bytes
  | [] => [[]]
  | b :: r =>
    if b.toNat = 34 then [] :: pieces r
    else match pieces r with
      | p :: ps => (b :: p) :: ps
      | [] => [[b]]

theorem pieces_ne_nil (s : Bytes) : pieces s ≠ [] := by
  fun_cases pieces s <;> simp

/-- concatenation of two cut documents: the last piece of the left continues into the first of the right -/
def glue {α : Type} : List (List α) → List (List α) → List (List α)
  | [], ys => ys
  | x :: xs, ys =>
    match xs with
    | [] => (match ys with | y :: ys' => (x ++ y) :: ys' | [] => [x])
    | _ :: _ => x :: glue xs ys

theorem glue_single_cons {α : Type} (x y : List α) (ys : List (List α)) : glue [x] (y :: ys) = (x ++ y) :: ys := rfl

theorem glue_ne_nil {α : Type} (xs ys : List (List α)) (h : xs ≠ []) : glue xs ys ≠ [] := by
  fun_cases glue xs ys <;> simp_all

theorem pieces_append (a r : Bytes) : pieces (a ++ r) = glue (pieces a) (pieces r) := by
  obtain ⟨y, ys, hy⟩ := List.exists_cons_of_ne_nil (pieces_ne_nil r)
  induction a with
  | nil => rw [List.nil_append, hy]; rfl
  | cons b a ih =>
    obtain ⟨p, ps, hp⟩ := List.exists_cons_of_ne_nil (pieces_ne_nil a)
    rw [List.cons_append, pieces, ih, pieces, hp, hy]
    cases ps <;> by_cases hb : b.toNat = 34 <;> simp [glue, hb]

theorem pieces_noq (v : Bytes) (h : ∀ c ∈ v, c.toNat ≠ 34) : pieces v = [v] := by
  induction v with
  | nil => rfl
  | cons b r ih =>
    rw [List.forall_mem_cons] at h
    simp [pieces, h.1, ih h.2]

/-- every escaper html/template installs for the three contexts yields a quote-free string -/
theorem escapeFor_noq (c : Ctx) (hc : c ≠ .unknown) (v : Bytes) : ∀ x ∈ escapeFor c v, x.toNat ≠ 34 := by
  intro x hx
  cases c with
  | unknown => exact absurd rfl hc
  | _ => exact (htmlEscape_inert _ x hx).1

inductive Part where
  | static (b : Bytes)
  | hole (c : Ctx) (field : Bytes)
  deriving DecidableEq, Repr

def fillPart (data : Bytes → Bytes) : Part → Bytes
  | .static b => b
  | .hole c f => escapeFor c (data f)

def fill (data : Bytes → Bytes) (ps : List Part) : Bytes := ps.flatMap (fillPart data)

/-- the pieces of the template, with holes — computed from the template alone -/
def skel : List Seg → List (List Part)
  | Seg.lit before :: Seg.act f :: rest =>
    glue ((pieces before).map (fun p => [Part.static p])) (glue [[Part.hole (ctxOf before) f]] (skel rest))
  | Seg.lit b :: rest => glue ((pieces b).map (fun p => [Part.static p])) (skel rest)
  | Seg.act f :: rest => glue [[Part.hole .unknown f]] (skel rest)
  | [] => [[]]

/-- every hole sits in a context whose escaper is known (`templateOK` asks the same of `contexts`) -/
def holesKnown (sk : List (List Part)) : Bool :=
  sk.all (fun ps => ps.all (fun p => match p with | .hole c _ => c ≠ .unknown | .static _ => true))

theorem glue_map_fill (data : Bytes → Bytes) (xs ys : List (List Part)) :
    glue (xs.map (fill data)) (ys.map (fill data)) = (glue xs ys).map (fill data) := by
  fun_induction glue xs ys <;> simp_all [glue, fill]

theorem holesKnown_glue (xs ys : List (List Part)) :
    holesKnown (glue xs ys) = (holesKnown xs && holesKnown ys) := by
  fun_induction glue xs ys <;> simp_all [holesKnown, Bool.and_assoc]

theorem map_static_fill (data : Bytes → Bytes) (l : List Bytes) :
    (l.map (fun p => [Part.static p])).map (fill data) = l := by
  simp [Function.comp_def, fill, fillPart]

theorem holesKnown_static (l : List Bytes) : holesKnown (l.map (fun p => [Part.static p])) = true := by
  simp [holesKnown]

theorem skel_ne_nil (segs : List Seg) : skel segs ≠ [] := by
  fun_induction skel segs with
  | case1 | case2 => exact glue_ne_nil _ _ (by simp [pieces_ne_nil])
  | case3 f rest ih => exact glue_ne_nil _ _ (by simp)
  | case4 => simp

theorem pieces_render (data : Bytes → Bytes) (segs : List Seg) (hk : holesKnown (skel segs) = true) :
    pieces (renderSegs data segs) = (skel segs).map (fill data) := by
  fun_induction skel segs with
  | case1 before f rest ih =>
    simp only [holesKnown_glue, Bool.and_eq_true] at hk
    have hc : ctxOf before ≠ .unknown := by simpa [holesKnown] using hk.2.1
    rw [renderSegs, List.append_assoc, pieces_append, pieces_append, ih hk.2.2, pieces_noq _ (escapeFor_noq _ hc _),
      ← glue_map_fill, ← glue_map_fill, map_static_fill]
    simp [fill, fillPart]
  | case2 b rest hne ih =>
    simp only [holesKnown_glue, Bool.and_eq_true] at hk
    rw [renderSegs.eq_2 data b rest hne, pieces_append, ih hk.2, ← glue_map_fill, map_static_fill]
  | case3 f rest ih =>
    rw [holesKnown_glue] at hk
    simp [holesKnown] at hk
  | case4 => rfl

/-! ### the skeleton without the empty statics that gluing leaves around a hole -/

def tidy (ps : List Part) : List Part := ps.filter (fun p => p ≠ Part.static [])

theorem fill_tidy (data : Bytes → Bytes) (ps : List Part) : fill data (tidy ps) = fill data ps := by
  induction ps with
  | nil => rfl
  | cons p ps ih =>
    by_cases hp : p = Part.static [] <;> simp_all [fill, tidy, fillPart]

def skelT (segs : List Seg) : List (List Part) := (skel segs).map tidy

theorem pieces_render_tidy (data : Bytes → Bytes) (segs : List Seg) (hk : holesKnown (skel segs) = true) :
    pieces (renderSegs data segs) = (skelT segs).map (fill data) := by
  simp [pieces_render data segs hk, skelT, Function.comp_def, fill_tidy]

/-- a piece of the skeleton that is a single hole is, in every rendering, that field's escaped value -/
theorem pieces_render_hole (data : Bytes → Bytes) (segs : List Seg) (hk : holesKnown (skel segs) = true)
    (i : Nat) (c : Ctx) (f : Bytes) (h : (skelT segs)[i]? = some [Part.hole c f]) :
    (pieces (renderSegs data segs))[i]? = some (escapeFor c (data f)) := by
  rw [pieces_render_tidy data segs hk, List.getElem?_map, h]
  simp [fill, fillPart]

/-! ### the library's forms, as skeletons (compared with the regenerated templates in Props/C14) -/

def B (s : String) : Bytes := s.toList.map (fun c => UInt8.ofNat c.toNat)
def S (s : String) : List Part := [Part.static (B s)]
def H (c : Ctx) (f : String) : List Part := [Part.hole c (B f)]

/-- the POST form of the SP (`AuthnRequest.Post`, `LogoutRequest.Post`) -/
def spRequestForm : List (List Part) :=
  [S "<form method=", S "post", S " action=", H .urlAttr "URL", S " id=", S "SAMLRequestForm",
   S "><input type=", S "hidden", S " name=", S "SAMLRequest", S " value=", H .attr "SAMLRequest",
   S " /><input type=", S "hidden", S " name=", S "RelayState", S " value=", H .attr "RelayState",
   S " /><input id=", S "SAMLSubmitButton", S " type=", S "submit", S " value=", S "Submit",
   S " /></form><script>document.getElementById('SAMLSubmitButton').style.visibility=", S "hidden",
   S ";document.getElementById('SAMLRequestForm').submit();</script>"]

/-- `LogoutResponse.Post` -/
def spResponseForm : List (List Part) :=
  [S "<form method=", S "post", S " action=", H .urlAttr "URL", S " id=", S "SAMLResponseForm",
   S "><input type=", S "hidden", S " name=", S "SAMLResponse", S " value=", H .attr "SAMLResponse",
   S " /><input type=", S "hidden", S " name=", S "RelayState", S " value=", H .attr "RelayState",
   S " /><input id=", S "SAMLSubmitButton", S " type=", S "submit", S " value=", S "Submit",
   S " /></form><script>document.getElementById('SAMLSubmitButton').style.visibility=", S "hidden",
   S ";document.getElementById('SAMLResponseForm').submit();</script>"]

/-- the IdP's response form (`IdpAuthnRequest.WriteResponse`) -/
def idpResponseForm : List (List Part) :=
  [S "<html><form method=", S "post", S " action=", H .urlAttr "URL", S " id=", S "SAMLResponseForm",
   S "><input type=", S "hidden", S " name=", S "SAMLResponse", S " value=", H .attr "SAMLResponse",
   S " /><input type=", S "hidden", S " name=", S "RelayState", S " value=", H .attr "RelayState",
   S " /><input id=", S "SAMLSubmitButton", S " type=", S "submit", S " value=", S "Continue",
   S (" /></form><script>document.getElementById('SAMLSubmitButton').style.visibility='hidden';</script>" ++
      "<script>document.getElementById('SAMLResponseForm').submit();</script></html>")]

/-- the bundled IdP's login form: the toast is text between two tags of the first piece -/
def idpLoginForm : List (List Part) :=
  [[Part.static (B "<html><p>"), Part.hole .text (B "Toast"), Part.static (B "</p><form method=")],
   S "post", S " action=", H .urlAttr "URL",
   S "><input type=", S "text", S " name=", S "user", S " placeholder=", S "user", S " value=", [],
   S " /><input type=", S "password", S " name=", S "password", S " placeholder=", S "password", S " value=", [],
   S " /><input type=", S "hidden", S " name=", S "SAMLRequest", S " value=", H .attr "SAMLRequest",
   S " /><input type=", S "hidden", S " name=", S "RelayState", S " value=", H .attr "RelayState",
   S " /><input type=", S "submit", S " value=", S "Log In", S " /></form></html>"]

end SamlVerif.Html
