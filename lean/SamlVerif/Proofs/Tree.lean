/-
  The canonical form is blind to comments and to how character data is divided into adjacent pieces
  (the edits of the comment-injection attack).
-/
import SamlVerif.Model.Tree

namespace SamlVerif.Tree

theorem canonList_nil (ctx : NSCtx) (pending : String) : canonList ctx pending [] = some (flush pending) := by
  simp [canonList]

theorem canonList_text (ctx : NSCtx) (pending s : String) (rest : List Node) :
    canonList ctx pending (.text false s :: rest) = canonList ctx (pending ++ s) rest := by
  simp [canonList]

theorem canonList_comment_head (ctx : NSCtx) (pending s : String) (rest : List Node) :
    canonList ctx pending (.other "comment" s :: rest) = canonList ctx pending rest := by
  simp [canonList]

/-- every edit the canonical form is blind to needs looking at only where it is made -/
theorem canonList_append_congr (ctx : NSCtx) (pre l₁ l₂ : List Node)
    (h : ∀ p, canonList ctx p l₁ = canonList ctx p l₂) (p : String) :
    canonList ctx p (pre ++ l₁) = canonList ctx p (pre ++ l₂) := by
  induction pre generalizing p with
  | nil => exact h p
  | cons n rest ih =>
    -- each branch of `canonList` on `n :: l` uses `l` only as `canonList ctx _ l`
    simp only [List.cons_append]
    unfold canonList
    split <;> rename_i heq <;> cases heq
    · simp only [ih]
    · simp only [ih]
    · -- the catch-all branch: the two facts saying that `n` is neither of the above let `simp`
      -- take the same branch on the right
      simp [ih]

/-- the classic attack shape: `alice<!---->@evil` has the canonical form of `alice@evil` -/
theorem canon_comment_in_text (ctx : NSCtx) (a b c : String) :
    canonList ctx "" [.text false a, .other "comment" c, .text false b] = canonList ctx "" [.text false (a ++ b)] := by
  simp only [canonList_text, canonList_comment_head, String.append_assoc]

end SamlVerif.Tree
