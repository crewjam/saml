import SamlVerif.Model.Bindings
import SamlVerif.Proofs.Query

namespace SamlVerif.Bindings
open SamlVerif.Codec

theorem parseQuery_encodePairs (ps : List (Bytes × Bytes)) : parseQuery (encodePairs ps) = (ps, true) := by
  induction ps using encodePairs.induct with
  | case1 => rfl
  | case2 k v => exact parseQuery_encodePair k v
  | case3 k v rest h ih => rw [encodePairs.eq_3 k v rest h, parseQuery_join, parseQuery_encodePair, ih]; rfl

/-- the `let pre` of `redirectQuery` and `redirectQueryPinned` -/
def pre (rawQuery : Bytes) : Bytes := if rawQuery = [] then [] else rawQuery ++ [38]

/-- in front of anything, `pre q0` acts as `q0 &` does, also when `q0` is empty -/
theorem parseQuery_pre (q0 b : Bytes) :
    parseQuery (pre q0 ++ b) =
      ((parseQuery q0).1 ++ (parseQuery b).1, ((parseQuery q0).2 && (parseQuery b).2)) := by
  unfold pre
  split
  · next h => simp [h, parseQuery_nil]
  · rw [List.append_assoc, List.singleton_append, parseQuery_join]

/-- parameters the unsigned redirect URL carries, in order -/
def expectedParams (msg relay : Bytes) : List (Bytes × Bytes) :=
  (kSAMLRequest, msg) :: (if relay = [] then [] else [(kRelayState, relay)])

theorem signedOctets_params (msg relay alg : Bytes) :
    parseQuery (signedOctets msg relay alg) = (expectedParams msg relay ++ [(kSigAlg, alg)], true) := by
  unfold signedOctets expectedParams
  split <;> simp [parseQuery_join, parseQuery_encodePair]

theorem countParam_eq_countP (ps : List (Bytes × Bytes)) (k : Bytes) :
    countParam ps k = ps.countP (fun p => p.1 = k) :=
  List.countP_eq_length_filter.symm

theorem countParam_append (a b : List (Bytes × Bytes)) (k : Bytes) :
    countParam (a ++ b) k = countParam a k + countParam b k := by
  simp [countParam_eq_countP]

theorem countParam_perm {a b : List (Bytes × Bytes)} (h : a.Perm b) (k : Bytes) :
    countParam a k = countParam b k := by
  simp only [countParam_eq_countP, h.countP_eq]

theorem getParam_append_of_absent (a b : List (Bytes × Bytes)) (k : Bytes) (h : countParam a k = 0) :
    getParam (a ++ b) k = getParam b k := by
  rw [countParam_eq_countP, List.countP_eq_zero] at h
  simp [getParam, List.find?_append, List.find?_eq_none.mpr h]

theorem countParam_valuesSet (vs : List (Bytes × Bytes)) (k v k' : Bytes) :
    countParam (valuesSet vs k v) k' = if k' = k then 1 else countParam vs k' := by
  simp only [countParam_eq_countP, valuesSet, List.countP_append, List.countP_filter]
  split
  · next h => simp [h]
  · next h =>
    have : (fun a : Bytes × Bytes => decide (a.1 = k') && decide (a.1 ≠ k)) = fun a => decide (a.1 = k') := by
      funext p
      by_cases hp : p.1 = k' <;> simp [hp, h]
    rw [this]
    simp [Ne.symm h]

theorem hexLower_table : ∀ n < 16, unhex (hexLower n) = some n := by decide +kernel

theorem hexBytes_length (r : Bytes) : (hexBytes r).length = 2 * r.length := by
  induction r with
  | nil => rfl
  | cons b r ih => simp [hexBytes, ih]; omega

/-- `unhex` reads the two digits of a byte back, so equal digits come from equal bytes -/
theorem hexBytes_inj (a b : Bytes) (h : hexBytes a = hexBytes b) : a = b := by
  induction a generalizing b with
  | nil =>
    cases b with
    | nil => rfl
    | cons y ys => simp [hexBytes] at h
  | cons x xs ih =>
    cases b with
    | nil => simp [hexBytes] at h
    | cons y ys =>
      simp only [hexBytes, List.cons.injEq] at h
      have hx := x.toNat_lt
      have hy := y.toNat_lt
      have e1 := congrArg unhex h.1
      have e2 := congrArg unhex h.2.1
      rw [hexLower_table _ (by omega), hexLower_table _ (by omega), Option.some.injEq] at e1 e2
      rw [UInt8.toNat_inj.mp (by omega : x.toNat = y.toNat), ih ys h.2.2]

end SamlVerif.Bindings
