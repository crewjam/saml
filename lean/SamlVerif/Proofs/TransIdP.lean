/-
  Proofs/TransIdP — the search loops of the definitions regenerated from identity_provider.go (`Generated/Trans.lean`), in closed
  form: a nested `for … range` over descriptors and their endpoints that returns at the first endpoint meeting a test is a
  `find?` over the (descriptor, endpoint) pairs of the registered metadata.  `acs_search` (on `GoSem.forIn_find_nested` and
  `forIn_find`) is the form `Trans_getACSEndpoint_eq` rewrites with; `nested_search` and `forIn_search` state a loop standing
  alone.  Loop bodies are taken from the regenerated definition by unification, never copied here.
-/
import SamlVerif.Generated.Trans
import SamlVerif.Proofs.GoInv
import SamlVerif.Model.IdP
open SamlVerif SamlVerif.GoSem

namespace SamlVerif.TransIdP

def vOf2 {α ρ σ : Type} (B : α → (Option ρ × σ) → Outcome (ForInStep (Option ρ × σ))) (s : σ) (x : α) : Option (ρ × σ) :=
  match B x (none, s) with
  | .ok (.done (some r, s')) => some (r, s')
  | _ => none

def found {ρ σ : Type} (s : σ) : Option (ρ × σ) → (Option ρ × σ)
  | some (r, s') => (some r, s')
  | none => (none, s)

theorem forIn_search {α ρ σ : Type} (xs : List α) (s : σ)
    (B : α → (Option ρ × σ) → Outcome (ForInStep (Option ρ × σ)))
    (hB : ∀ x, B x (none, s) = .ok (.yield (none, s)) ∨ ∃ r s', B x (none, s) = .ok (.done (some r, s'))) :
    forIn xs (none, s) B = .ok (found s (xs.findSome? (vOf2 B s))) := by
  induction xs with
  | nil => simp [found]
  | cons x xs ih =>
    simp only [List.forIn_cons, List.findSome?_cons]
    rcases hB x with h | ⟨r, s', h⟩
    · simp only [h, Outcome.ok_bind', vOf2]
      exact ih
    · simp [h, vOf2, found]

/-- the (descriptor, endpoint) pairs of the registered metadata, in document order -/
def pairs (md : Trans.EntityDescriptor) : List (Trans.SPSSODescriptor × Trans.IndexedEndpoint) :=
  md.SPSSODescriptors.flatMap fun d => d.AssertionConsumerServices.map fun e => (d, e)

theorem mem_pairs (md : Trans.EntityDescriptor) (p) : p ∈ pairs md ↔ p.1 ∈ md.SPSSODescriptors ∧ p.2 ∈ p.1.AssertionConsumerServices := by
  obtain ⟨d, e⟩ := p
  simp [pairs]

def chosen (req : Trans.IdpAuthnRequest) (p : Trans.SPSSODescriptor × Trans.IndexedEndpoint) : Trans.IdpAuthnRequest :=
  { req with SPSSODescriptor := some p.1, ACSEndpoint := some p.2 }

/-- a nested search: descriptors, then their endpoints; the first endpoint meeting `crit` is chosen -/
theorem nested_search (req : Trans.IdpAuthnRequest) (md : Trans.EntityDescriptor) (crit : Trans.IndexedEndpoint → Bool)
    (Bin : Trans.SPSSODescriptor → Trans.IndexedEndpoint → (Option (Trans.IdpAuthnRequest × GoError) × Trans.IdpAuthnRequest) →
      Outcome (ForInStep (Option (Trans.IdpAuthnRequest × GoError) × Trans.IdpAuthnRequest)))
    (K : (Option (Trans.IdpAuthnRequest × GoError) × Trans.IdpAuthnRequest) →
      Outcome (ForInStep (Option (Trans.IdpAuthnRequest × GoError) × Trans.IdpAuthnRequest)))
    (hin : ∀ d e, Bin d e (none, req) = if crit e then .ok (.done (some (chosen req (d, e), none), chosen req (d, e))) else .ok (.yield (none, req)))
    (hK1 : ∀ r s, K (some r, s) = .ok (.done (some r, s))) (hK2 : ∀ s, K (none, s) = .ok (.yield (none, s))) :
    forIn md.SPSSODescriptors (none, req) (fun (d : Trans.SPSSODescriptor) (s : Option (Trans.IdpAuthnRequest × GoError) × Trans.IdpAuthnRequest) =>
        forIn d.AssertionConsumerServices (none, s.snd) (Bin d) >>= K)
      = .ok (match (pairs md).find? (fun (p : Trans.SPSSODescriptor × Trans.IndexedEndpoint) => crit p.2) with
             | some p => (some (chosen req p, none), chosen req p)
             | none => (none, req)) := by
  rw [pairs, forIn_find_nested md.SPSSODescriptors (·.AssertionConsumerServices) (none, req) _ crit
    (fun p => (some (chosen req p, none), chosen req p))]
  · cases List.find? _ _ <;> rfl
  · intro d _
    rw [forIn_find _ _ _ crit (fun e => (some (chosen req (d, e), none), chosen req (d, e)))
      fun e _ => by rw [hin]; split <;> rfl]
    cases List.find? _ _ <;> simp [hK1, hK2]

def isBrowser (b : String) : Bool :=
  b == "urn:oasis:names:tc:SAML:2.0:bindings:HTTP-POST" || b == "urn:oasis:names:tc:SAML:2.0:bindings:HTTP-Redirect"

/-- the selection rule, on the regenerated types: requested index, else requested URL, else (when neither is given) the
    default browser-binding endpoint, else the first browser-binding endpoint -/
def selectSpec (md : Trans.EntityDescriptor) (r : Trans.AuthnRequest) : Option (Trans.SPSSODescriptor × Trans.IndexedEndpoint) :=
  let ps := pairs md
  let byIndex := if r.AssertionConsumerServiceIndex ≠ "" then ps.find? (fun p => itoa p.2.Index == r.AssertionConsumerServiceIndex) else none
  match byIndex with
  | some p => some p
  | none =>
    let byURL := if r.AssertionConsumerServiceURL ≠ "" then ps.find? (fun p => p.2.Location == r.AssertionConsumerServiceURL) else none
    match byURL with
    | some p => some p
    | none =>
      if r.AssertionConsumerServiceURL = "" ∧ r.AssertionConsumerServiceIndex = "" then
        match ps.find? (fun p => p.2.IsDefault == some true && isBrowser p.2.Binding) with
        | some p => some p
        | none => ps.find? (fun p => isBrowser p.2.Binding)
      else none

/-! ### the loops of `getACSEndpoint` -/

/-- the state of a loop that can return: what it returns, if it has, and the request under construction -/
abbrev St := Option (Trans.IdpAuthnRequest × GoError) × Trans.IdpAuthnRequest

/-- `chosen`, reducible: the two structure updates of a loop body, as they unfold.  `chosen` itself stays opaque: a `simp` lemma
    folding the structure literal into it is tried on every request-typed term, and `simp` then takes over 30 s. -/
abbrev withChoice (r : Trans.IdpAuthnRequest) (d : Trans.SPSSODescriptor) (e : Trans.IndexedEndpoint) : Trans.IdpAuthnRequest :=
  { r with SPSSODescriptor := some d, ACSEndpoint := some e }

/-- One nested loop of `getACSEndpoint` with what follows it, from any request `s`: the first pair meeting `crit` (which may read
    the request, as the index and URL tests do) is returned at once; without one the code after the loop runs from `s`.  As a
    `simp` lemma it rewrites every copy of the loop, also those after earlier loops, where the state is a bound variable; the
    side conditions say that `K` and `K'` pass a return value on, and close by evaluation (`implies_true`). -/
theorem acs_search (ds : List Trans.SPSSODescriptor) (s : Trans.IdpAuthnRequest) (crit : St → Trans.IndexedEndpoint → Bool)
    (K : St → Outcome (ForInStep St)) (hK1 : ∀ r s, K (some r, s) = .ok (.done (some r, s)))
    (hK2 : ∀ s, K (none, s) = .ok (.yield (none, s)))
    (K' : St → Outcome (Trans.IdpAuthnRequest × GoError)) (hK' : ∀ r s, K' (some r, s) = .ok r) :
    (forIn ds ((none, s) : St) fun (d : Trans.SPSSODescriptor) st =>
        (forIn d.AssertionConsumerServices ((none, st.snd) : St) fun (e : Trans.IndexedEndpoint) st =>
          if crit st e = true then
            Outcome.ok (ForInStep.done (some (withChoice st.snd d e, none), withChoice st.snd d e))
          else Outcome.ok (ForInStep.yield (none, st.snd))) >>= K) >>= K' =
      match (ds.flatMap fun (d : Trans.SPSSODescriptor) => d.AssertionConsumerServices.map (d, ·)).find?
              (fun p => crit (none, s) p.2) with
      | some p => .ok (chosen s p, none)
      | none => K' (none, s) := by
  rw [forIn_find_nested ds (·.AssertionConsumerServices) (none, s) _ (crit (none, s))
    (fun p => (some (chosen s p, none), chosen s p))]
  · cases List.find? _ _ <;> simp [hK']
  · intro d _
    rw [forIn_find _ _ _ (crit (none, s)) (fun e => (some (chosen s (d, e), none), chosen s (d, e)))
      fun e _ => by split <;> rfl]
    cases List.find? _ _ <;> simp [hK1, hK2]

end SamlVerif.TransIdP
