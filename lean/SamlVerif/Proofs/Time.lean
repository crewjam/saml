/-
  RelaxedTime: the calendar decomposition is invertible and yields valid civil dates; what
  `MarshalText` writes, `UnmarshalText` reads back as the same instant.

  Calendar: the year of an era at `okN_of_lt`; months and days of the month are linear arithmetic.
  Text: one fact about one digit (`digVal_dig`), one about two (`two_digits`); every field then reads back
  by unfolding.
-/
import SamlVerif.Model.Time

namespace SamlVerif.TimeM

/-! `yoeOf`, and the first day of year `yoe` as `daysFromCivil` counts it, over `Nat`, where the table
    `yoeN_ends` can be evaluated; `yoeOf_natCast` and `era_facts` go back to `Int`. -/

def yoeN (doe : Nat) : Nat := (doe - doe / 1460 + doe / 36524 - doe / 146096) / 365
def startN (yoe : Nat) : Nat := 365 * yoe + yoe / 4 - yoe / 100

/-- day-of-era `doe` falls inside the (March-based) year its year-of-era formula names, and on that
    year's 366th day only when the following civil year is a leap year (`Bool`, for `List.all` in `era_ok`) -/
def okN (doe : Nat) : Bool :=
  let s := startN (yoeN doe)
  Nat.ble s doe && Nat.ble doe (s + 365) &&
    (Nat.ble doe (s + 364) || ((yoeN doe + 1) % 4 == 0 && ((yoeN doe + 1) % 100 != 0 || (yoeN doe + 1) % 400 == 0)))

theorem yoeOf_natCast (d : Nat) : yoeOf d = yoeN d := by
  -- the two truncated subtractions of `yoeN` are exact
  have h1 := Nat.div_le_self d 1460
  have h2 : d / 146096 ≤ d - d / 1460 + d / 36524 :=
    Nat.le_trans (Nat.div_le_div_left (by decide) (by decide)) (Nat.le_add_left ..)
  simp only [yoeOf, yoeN, Int.natCast_ediv, Int.natCast_sub h2, Int.natCast_add, Int.natCast_sub h1]
  rfl

theorem yoeN_mono {a b : Nat} (h : a ≤ b) : yoeN a ≤ yoeN b := by
  induction h with
  | refl => exact Nat.le_refl _
  | step _ ih =>
    -- the step over `Int`, where `omega` need not split on four truncated subtractions
    refine Nat.le_trans ih (Int.ofNat_le.mp ?_)
    rw [← yoeOf_natCast, ← yoeOf_natCast]
    exact Int.ediv_le_ediv (by decide) (by omega)

/-- the formula names year `y` on the first day of year `y` and on the day before the next year starts:
    a table of 400 rows, the only evaluation in the calendar -/
theorem yoeN_ends : ∀ y < 400, yoeN (startN y) = y ∧ yoeN (startN (y + 1) - 1) = y := by
  decide +kernel

theorem startN_natCast (y : Nat) : (startN y : Int) = 365 * y + y / 4 - y / 100 := by
  have h : y / 100 ≤ 365 * y + y / 4 := by omega
  simp only [startN, Int.natCast_sub h, Int.natCast_add, Int.natCast_mul, Int.natCast_ediv]
  rfl

theorem startN_succ (y : Nat) :
    startN (y + 1) = startN y + 365 ∨
      startN (y + 1) = startN y + 366 ∧ (y + 1) % 4 = 0 ∧ (y + 1) % 100 ≠ 0 := by
  have := startN_natCast y
  have := startN_natCast (y + 1)
  omega

theorem yoeN_le {d : Nat} (h : d < 146097) : yoeN d ≤ 399 := yoeN_mono (b := 146096) (by omega)

/-- Every day of an era lies in the year `y` that the formula names.  The formula is monotone in the day
    (`yoeN_mono`) and right at both ends of each of the 400 years (`yoeN_ends`): a day before `startN y`
    would be named at most `y - 1`, a day from `startN (y + 1)` on at least `y + 1`.  The last year is
    split off: it has no successor in the era, its 366th day is the era's last, and 400 is a leap year. -/
theorem okN_of_lt (d : Nat) (h : d < 146097) : okN d = true := by
  have hy := yoeN_le h
  generalize hyd : yoeN d = y at hy
  have h1 : startN y ≤ d := by
    cases y with
    | zero => exact Nat.zero_le d
    | succ k =>
      apply Nat.le_of_not_lt
      intro hlt
      have := yoeN_mono (Nat.le_sub_one_of_lt hlt)
      have := (yoeN_ends k (by omega)).2
      omega
  have h2 : y < 399 → d < startN (y + 1) := by
    intro hlt
    apply Nat.lt_of_not_le
    intro hle
    have := yoeN_mono hle
    have := (yoeN_ends (y + 1) (by omega)).1
    omega
  simp only [okN, hyd, Bool.and_eq_true, Bool.or_eq_true, Nat.ble_eq, beq_iff_eq, bne_iff_ne, ne_eq]
  rcases Nat.lt_or_eq_of_le hy with hlt | rfl
  · have := h2 hlt
    have := startN_succ y
    omega
  · have : startN 399 = 145731 := rfl
    omega

theorem era_ok : (List.range 146097).all okN = true :=
  List.all_eq_true.mpr fun d hd => okN_of_lt d (List.mem_range.mp hd)

theorem isLeap_iff (y : Int) : isLeap y = true ↔ y % 4 = 0 ∧ (y % 100 ≠ 0 ∨ y % 400 = 0) := by
  simp [isLeap]

/-- the calendar repeats every 400 years: `isLeap` looks at the year modulo divisors of 400 only -/
theorem isLeap_add_mul (y e : Int) : isLeap (y + e * 400) = isLeap y := by
  have h (k : Int) (hk : k ∣ 400) : (y + e * 400) % k = y % k := by
    rw [← Int.emod_emod_of_dvd _ hk, Int.add_mul_emod_self_right, Int.emod_emod_of_dvd _ hk]
  simp only [isLeap, h 4 (by decide), h 100 (by decide), h 400 (by decide)]

theorem era_facts (doe : Int) (h : 0 ≤ doe ∧ doe < 146097) :
    0 ≤ yoeOf doe ∧ yoeOf doe ≤ 399 ∧ 0 ≤ doyOf doe ∧ doyOf doe ≤ 365 ∧
    (doyOf doe = 365 → isLeap (yoeOf doe + 1) = true) := by
  obtain ⟨d, rfl⟩ := Int.eq_ofNat_of_zero_le h.1
  have := yoeN_le (d := d) (by omega)
  have hok := okN_of_lt d (by omega)
  simp only [okN, Bool.and_eq_true, Bool.or_eq_true, Nat.ble_eq, beq_iff_eq, bne_iff_ne, ne_eq] at hok
  simp only [doyOf, isLeap_iff, yoeOf_natCast, ← startN_natCast]
  omega

/-- day-of-year `doy` (0 = 1 March) of the March-based year `y`: the month index is in range and the day
    of the month exists in that month of the civil year (day 365 is 29 February of year `y + 1`) -/
theorem month_day (doy y : Int) (h : 0 ≤ doy ∧ doy ≤ 365) (hl : doy = 365 → isLeap (y + 1) = true) :
    0 ≤ mpOf doy ∧ mpOf doy ≤ 11 ∧ 1 ≤ domOf doy ∧
    domOf doy ≤ daysIn (y + if (if mpOf doy < 10 then mpOf doy + 3 else mpOf doy - 9) ≤ 2 then 1 else 0)
      (if mpOf doy < 10 then mpOf doy + 3 else mpOf doy - 9) := by
  unfold daysIn
  -- February's length becomes a variable for `omega`
  generalize hfeb : (if isLeap _ = true then 29 else 28 : Int) = feb
  have : 28 ≤ feb := by rw [← hfeb]; split <;> omega
  have : doy = 365 → feb = 29 := by
    rintro rfl
    rw [← hfeb]
    exact if_pos (hl rfl)
  unfold domOf mpOf at *
  omega

theorem daysFromCivil_mk (era yoe mp d : Int) (hy : 0 ≤ yoe ∧ yoe ≤ 399) (hm : 0 ≤ mp ∧ mp ≤ 11) :
    daysFromCivil ⟨yoe + era * 400 + (if (if mp < 10 then mp + 3 else mp - 9) ≤ 2 then 1 else 0),
        if mp < 10 then mp + 3 else mp - 9, d⟩ =
      era * 146097 + (yoe * 365 + yoe / 4 - yoe / 100 + ((153 * mp + 2) / 5 + d - 1)) - 719468 := by
  -- the month goes back to its March-based index and the year to its era; then the definition unfolds to
  -- the right-hand side (`omega` on the unfolded goal meets seven quotients under four `if`s: dear)
  generalize hm' : (if mp < 10 then mp + 3 else mp - 9) = m
  have hmp : (if m > 2 then m - 3 else m + 9) = mp := by omega
  have hera : (yoe + era * 400) / 400 = era := by
    rw [Int.add_mul_ediv_right _ _ (by decide), Int.ediv_eq_zero_of_lt hy.1 (by omega), Int.zero_add]
  simp only [daysFromCivil, hmp]
  split <;> simp only [Int.add_sub_cancel, Int.add_zero, hera]

theorem calendar_roundtrip (z : Int) :
    let c := civilFromDays z
    daysFromCivil c = z ∧ 1 ≤ c.month ∧ c.month ≤ 12 ∧ 1 ≤ c.day ∧ c.day ≤ daysIn c.year c.month := by
  simp only [civilFromDays]
  generalize hera : (z + 719468) / 146097 = era
  generalize hdoe : z + 719468 - era * 146097 = doe
  obtain ⟨hy0, hy1, hd0, hd1, hleap⟩ := era_facts doe (by omega)
  have hl : doyOf doe = 365 → isLeap (yoeOf doe + era * 400 + 1) = true := by
    rw [Int.add_right_comm, isLeap_add_mul]
    exact hleap
  obtain ⟨hm0, hm1, hdom1, hdomn⟩ := month_day (doyOf doe) _ ⟨hd0, hd1⟩ hl
  refine ⟨?_, by omega, by omega, hdom1, hdomn⟩
  rw [daysFromCivil_mk era _ _ _ ⟨hy0, hy1⟩ ⟨hm0, hm1⟩]
  unfold domOf doyOf
  omega

theorem digVal_dig (n : Int) : digVal (dig n) = some (n % 10) := by
  have tab : ∀ k < 10, digVal (Char.ofNat (48 + k)) = some (k : Int) := by decide
  have := tab (n % 10).toNat (by omega)
  rwa [Int.toNat_of_nonneg (by omega)] at this

theorem num2_dig (a b : Int) : num2 (dig a) (dig b) = some (a % 10 * 10 + b % 10) := by
  simp only [num2, digVal_dig]

/-- the two low decimal digits of any integer, as `pad2` writes and `num2` reads them -/
theorem two_digits (n : Int) : n / 10 % 10 * 10 + n % 10 = n % 100 := by
  have : n / 10 / 10 = n / 100 := Int.ediv_ediv_of_nonneg (by decide)
  omega

theorem num2_pad2 (n : Int) (h : 0 ≤ n ∧ n < 100) : num2 (dig (n / 10)) (dig n) = some n := by
  rw [num2_dig, two_digits, Int.emod_eq_of_lt h.1 h.2]

theorem num4_pad4 (n : Int) (h : 0 ≤ n ∧ n < 10000) :
    num4 (dig (n / 1000)) (dig (n / 100)) (dig (n / 10)) (dig n) = some n := by
  have e : n / 100 / 10 = n / 1000 := Int.ediv_ediv_of_nonneg (by decide)
  have e' : n / 100 % 100 = n / 100 := Int.emod_eq_of_lt (by omega) (by omega)
  simp only [num4, num2_dig, ← e, two_digits, e', Int.ediv_mul_add_emod]

theorem parseFrac_fracStr (f : Int) (h : 0 ≤ f ∧ f < 1000) :
    parseFrac (fracStr f ++ ['Z']) = (f * 1000000, ['Z']) := by
  have hZ : digVal 'Z' = none := rfl
  -- the hundreds are one digit, and the tens of the tens: less for `omega` to work out below
  have e : f / 100 % 10 = f / 100 := Int.emod_eq_of_lt (by omega) (by omega)
  have : f / 10 / 10 = f / 100 := Int.ediv_ediv_of_nonneg (by decide)
  unfold fracStr
  split
  · simp [parseFrac, *]
  -- one, two or three digits are written; each is read by `digVal_dig`
  split
  · simp [parseFrac, fracDigits, digVal_dig, hZ, e]
    omega
  split
  all_goals
    simp [parseFrac, fracDigits, digVal_dig, hZ, e]
    omega

theorem roundMs_exact {ns m : Int} (h : ns = m * 1000000) : roundMs ns = m := by
  simp only [roundMs]
  omega

theorem parseClock_written (h mi s f : Int) (hh : 0 ≤ h ∧ h ≤ 23) (hmi : 0 ≤ mi ∧ mi ≤ 59) (hs : 0 ≤ s ∧ s ≤ 59)
    (hf : 0 ≤ f ∧ f < 1000) :
    parseClock (pad2 h ++ [':'] ++ pad2 mi ++ [':'] ++ pad2 s ++ fracStr f ++ ['Z']) =
      some (h * 3600 + mi * 60 + s, f * 1000000) := by
  have e : h / 10 % 10 * 10 + h % 10 = h := by rw [two_digits, Int.emod_eq_of_lt hh.1 (by omega)]
  simp [pad2, parseClock, parseMinSec, digVal_dig, e, num2_pad2 mi (by omega), num2_pad2 s (by omega),
    hh.2, hmi.2, hs.2, parseFrac_fracStr f hf, parseZone]

theorem daysIn_le (y m : Int) : daysIn y m ≤ 31 := by
  unfold daysIn
  omega

theorem parseNs_written (c : Civil) (hy : 0 ≤ c.year ∧ c.year ≤ 9999)
    (hv : 1 ≤ c.month ∧ c.month ≤ 12 ∧ 1 ≤ c.day ∧ c.day ≤ daysIn c.year c.month)
    (clock : List Char) (secs fr : Int) (hc : parseClock clock = some (secs, fr)) :
    parseNs (pad4 c.year ++ ['-'] ++ pad2 c.month ++ ['-'] ++ pad2 c.day ++ ['T'] ++ clock) =
      some ((daysFromCivil c * 86400 + secs) * 1000000000 + fr) := by
  have := daysIn_le c.year c.month
  simp [pad4, pad2, parseNs, num4_pad4 c.year (by omega), num2_pad2 c.month (by omega),
    num2_pad2 c.day (by omega), hv, hc]

theorem unmarshal_of_parseNs {text : List Char} {ns : Int} (h : parseNs text = some ns) :
    unmarshal text = some (roundMs ns) := by
  have hne : text ≠ [] := by rintro rfl; cases h
  rw [unmarshal, if_neg hne, h]
  rfl

theorem unmarshal_marshalMs (ms : Int) (hy : 0 ≤ (civilFromDays (ms / 86400000)).year ∧
    (civilFromDays (ms / 86400000)).year ≤ 9999) : unmarshal (marshalMs ms) = some ms := by
  have hclock := parseClock_written (ms % 86400000 / 3600000) (ms % 86400000 / 60000 % 60)
    (ms % 86400000 / 1000 % 60) (ms % 86400000 % 1000) (by omega) (by omega) (by omega) (by omega)
  obtain ⟨hrt, hv⟩ := calendar_roundtrip (ms / 86400000)
  have hns := parseNs_written _ hy hv _ _ _ hclock
  -- seconds within minutes within hours: the two nestings, stated so that the last `omega` need not find them
  have : ms % 86400000 / 1000 / 60 = ms % 86400000 / 60000 := Int.ediv_ediv_of_nonneg (by decide)
  have : ms % 86400000 / 60000 / 60 = ms % 86400000 / 3600000 := Int.ediv_ediv_of_nonneg (by decide)
  simp only [← List.append_assoc, hrt] at hns
  rw [marshalMs, yearStr, if_pos hy.2, unmarshal_of_parseNs hns, roundMs_exact (m := ms) (by omega)]

end SamlVerif.TimeM
