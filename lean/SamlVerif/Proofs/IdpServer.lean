/-
  The bundled IdP server (`Model/IdpServer.lean`) read as two relations, each proved against its
  function once: `GetSession` (`getSession_spec`) and `Step` (`step_spec`), in which all branches that
  change nothing an invariant of C19 looks at are one constructor.  The invariants are then `cases` on
  `Step`.  The last part says what deleting and registering a service does to `RegSpec` and
  `DistinctEntities`, over an arbitrary map: DELETE, a new PUT, an overwriting PUT and the registry a
  restart builds all go through `RegSpec.del` and `RegSpec.cons`.
-/
import SamlVerif.Model.IdpServer

namespace SamlVerif.IdpServer

theorem Map.get_cons {α} (a : String) (b : α) (m : Map α) (k : String) :
    Map.get ((a, b) :: m) k = if k = a then some b else m.get k := by
  simp only [Map.get, List.lookup_cons]
  split <;> simp_all

theorem Map.get_del {α} (m : Map α) (k k' : String) :
    (m.del k).get k' = if k' = k then none else m.get k' := by
  induction m with
  | nil => exact (ite_self _).symm
  | cons p rest ih =>
    obtain ⟨a, b⟩ := p
    simp only [Map.del, List.filter_cons, Map.get_cons, apply_ite (Map.get · k')] at ih ⊢
    rw [ih]
    grind

theorem Map.get_put {α} (m : Map α) (k k' : String) (v : α) :
    (m.put k v).get k' = if k' = k then some v else m.get k' := by
  rw [Map.put, Map.get_cons, Map.get_del]
  split <;> rfl

/-- keys are unique (true of every map built by `put`/`del` from the empty map) -/
def UniqueKeys {α} (m : Map α) : Prop := (m.map (·.1)).Nodup

theorem uniqueKeys_del {α} (m : Map α) (k : String) (h : UniqueKeys m) : UniqueKeys (m.del k) :=
  List.Nodup.sublist (List.Sublist.map _ List.filter_sublist) h

theorem uniqueKeys_put {α} (m : Map α) (k : String) (v : α) (h : UniqueKeys m) : UniqueKeys (m.put k v) := by
  refine List.nodup_cons.mpr ⟨fun hk => ?_, uniqueKeys_del m k h⟩
  obtain ⟨p, hp, rfl⟩ := List.mem_map.mp hk
  simpa using (List.mem_filter.mp hp).2

theorem storeGet_found {α} {f : Fault} {m : Map α} {k : String} {v : α} (h : storeGet f m k = .found v) :
    m.get k = some v := by
  revert h
  fun_cases storeGet f m k <;> simp_all

theorem storeGet_notFound {α} {f : Fault} {m : Map α} {k : String} (h : storeGet f m k = .notFound)
    (hf : f ≠ .notFound) : m.get k = none := by
  revert h
  fun_cases storeGet f m k <;> simp_all

/-! ### session lookup -/

/-- how `getSession` can produce a session: a password that matches the stored user record (a new
    session, announced by Set-Cookie), or the cookie of a stored, unexpired session -/
inductive SessionVia (s : State) (cred : Cred) (cookie : Option String) (allowCred : Bool)
    (id : String) (σ : SessionRec) (c : Option String) : Prop where
  | password (u p : String) (usr : UserRec)
      (hcred : cred = .form u p) (hallow : allowCred = true) (hu : u ≠ "")
      (huser : s.store.users.get u = some usr) (hvalid : validPw p = true) (hpw : usr.hash = some p)
      (hσ : σ = ⟨u, usr.profile, s.now + sessionMaxAge⟩) (hc : c = some id)
  | cookie (hcookie : cookie = some id) (hstored : s.store.sessions.get id = some σ)
      (hfresh : ¬ s.now > σ.expire) (hc : c = none)

/-- `getSession` as a relation between the state before, the state after and the result (the fault
    tokens only choose among the three): it writes a reply itself (login form or a bare status), finds
    the cookie's session, or creates a session for a matching password and logs it with the user record
    and the password. -/
inductive GetSession (s : State) (cred : Cred) (cookie : Option String) (allow : Bool) : State → SessRes → Prop
  | wrote (r : Reply) (hr : r.body = .loginForm ∨ r.body = .empty) : GetSession s cred cookie allow s (.wrote r)
  | cookie {id : String} {σ : SessionRec} (h : SessionVia s cred cookie allow id σ none) :
      GetSession s cred cookie allow s (.session id σ none)
  | login {σ : SessionRec} (usr : UserRec) (p : String)
      (h : SessionVia s cred cookie allow (sessionId s.nextRand) σ (some (sessionId s.nextRand)))
      (hpw : usr.hash = some p) (hu : σ.user ≠ "") (hprof : σ.profile = usr.profile) :
      GetSession s cred cookie allow
        { s with store := { s.store with sessions := s.store.sessions.put (sessionId s.nextRand) σ },
                 nextRand := s.nextRand + 1,
                 loginLog := (sessionId s.nextRand, σ, usr, p) :: s.loginLog }
        (.session (sessionId s.nextRand) σ (some (sessionId s.nextRand)))

theorem getSession_spec (s : State) (fs : List Fault) (cred : Cred) (cookie : Option String) (allow : Bool) :
    GetSession s cred cookie allow (getSession s fs cred cookie allow).1 (getSession s fs cred cookie allow).2.2 := by
  fun_cases getSession s fs cred cookie allow
  -- `case1`: the password matches the stored record and the session is stored; `case6`: the cookie's session is found, unexpired
  case case1 credUser u p hcu _ _ _ usr hget hpw _ _ _ _ =>
    have hcred : cred = .form u p ∧ allow = true ∧ u ≠ "" := by
      cases cred <;> simp only [credUser, reduceCtorEq] at hcu
      split at hcu <;> simp_all
    exact .login usr p (.password u p usr hcred.1 hcred.2.1 hcred.2.2 (storeGet_found hget) hpw.1 hpw.2 rfl rfl)
      hpw.2 hcred.2.2 rfl
  case case6 => exact .cookie (.cookie rfl (storeGet_found ‹_›) ‹_› rfl)
  -- every other leaf answers with the login form or a bare 500
  all_goals exact .wrote _ (by decide)

theorem GetSession.of_eq {s fs cred cookie allow s' fs' res} (h : getSession s fs cred cookie allow = (s', fs', res)) :
    GetSession s cred cookie allow s' res := by
  have := getSession_spec s fs cred cookie allow
  rwa [h] at this

theorem GetSession.via {s cred cookie allow s' id σ c} (h : GetSession s cred cookie allow s' (.session id σ c)) :
    SessionVia s cred cookie allow id σ c := by
  cases h <;> assumption

theorem GetSession.frame {s cred cookie allow s' res} (h : GetSession s cred cookie allow s' res) :
    s'.store.users = s.store.users ∧ s'.store.services = s.store.services ∧
    s'.store.shortcuts = s.store.shortcuts ∧ s'.registry = s.registry ∧ s'.now = s.now := by
  cases h <;> exact ⟨rfl, rfl, rfl, rfl, rfl⟩

/-! ### one request -/

/-- `putService` drops the old registry entry only if the entity ID changes, then registers the new
    metadata; either way the result is "drop the old entry, register the new" -/
theorem regPut_regDel (reg : String → Option Md) (e : String) (m : Md) :
    regPut (if e ≠ m.entityID then regDel reg e else reg) m.entityID m = regPut (regDel reg e) m.entityID m := by
  split
  · rfl
  · funext k
    simp only [regPut, regDel]
    split <;> simp_all

def Body.Plain : Body → Prop
  | .saml .. => False
  | _ => True

theorem Body.Plain.ne_saml {b : Body} (h : b.Plain) (u prof e relay : String) : b ≠ .saml u prof e relay := by
  rintro rfl
  exact h

theorem GetSession.plain {s cred cookie allow s' r} (h : GetSession s cred cookie allow s' (.wrote r)) :
    r.body.Plain := by
  rcases h with ⟨_, hr | hr⟩ <;> rw [hr] <;> trivial

/-! The credentials, the cookie and the permission to use form credentials with which a request's handler
    calls `getSession`. -/

def credOf : Req → Cred
  | .sso _ _ c _ _ => c
  | .login c _ => c
  | _ => .none

def cookieOf : Req → Option String
  | .sso _ _ _ ck _ => ck
  | .login _ ck => ck
  | .shortcut _ _ ck => ck
  | _ => none

def allowCredOf : Req → Bool
  | .sso .. => true
  | .login .. => true
  | _ => false

/-- the request asks for an assertion towards the registered service provider `md` with this relay state:
    a valid SSO request naming its entity, or a stored shortcut to it -/
def Target (s : State) (md : Md) (relay : String) : Req → Prop
  | .sso entity reqValid _ _ relay' => reqValid = true ∧ relay' = relay ∧ s.registry entity = some md
  | .shortcut name _ _ => ∃ sc, s.store.shortcuts.get name = some sc ∧ s.registry sc.sp = some md
  | _ => False

/-- What a request does: the state it leads to and the reply, with the store calls that fail folded away.
    Every failing branch, every read or list, all user and shortcut management and `advance` are `frame`:
    at most users, shortcuts and the clock change, and the reply is no SAML response.  "Nothing changed"
    is the instance `us := s.store.users`, `sc := s.store.shortcuts`, `t := s.now`, which the unifier finds
    by structure eta; so in `step_spec` every such leaf is `.frame trivial`.
    `putService`: the model keeps the old registry entry when the entity ID is unchanged and overwrites it;
    that is the same as dropping it first (`regPut_regDel`), which is what is recorded here. -/
inductive Step (s : State) (fs : List Fault) : Req → State → Reply → Prop
  | frame {req : Req} {us : Map UserRec} {sc : Map ShortcutRec} {t : Int} {r : Reply} (hr : r.body.Plain) :
      Step s fs req { s with store := { s.store with users := us, shortcuts := sc }, now := t } r
  | session {req : Req} {s' : State} {res : SessRes} {r : Reply}
      (h : GetSession s (credOf req) (cookieOf req) (allowCredOf req) s' res) (hr : r.body.Plain) : Step s fs req s' r
  | saml {req : Req} {md : Md} {relay : String} {s' : State} {id : String} {σ : SessionRec} {c : Option String}
      (ht : Target s md relay req) (hacs : md.hasPostACS = true)
      (h : GetSession s (credOf req) (cookieOf req) (allowCredOf req) s' (.session id σ c)) :
      Step s fs req s' ⟨200, .saml σ.user σ.profile md.entityID relay, c⟩
  | deleteSession (id : String) :
      Step s fs (.deleteSession id) { s with store := { s.store with sessions := s.store.sessions.del id } } (st 204)
  | putService (id : String) (m : Md) (old : Option Md)
      (hold : (nextFault fs).1 ≠ .notFound → old = s.store.services.get id) :
      Step s fs (.putService id (some m))
        { s with store := { s.store with services := s.store.services.put id m },
                 registry := regPut (match (generalizing := false) old with
                                     | some o => regDel s.registry o.entityID
                                     | none => s.registry) m.entityID m } (st 204)
  | deleteService (id : String) (m : Md) (hget : s.store.services.get id = some m) :
      Step s fs (.deleteService id)
        { s with store := { s.store with services := s.store.services.del id },
                 registry := regDel s.registry m.entityID } (st 204)
  | restart : Step s fs .restart (restart s) (st 0)

theorem step_spec (s : State) (fs : List Fault) (req : Req) : Step s fs req (step s fs req).1 (step s fs req).2 := by
  -- the leaves of `step`; all but the 13 named here are `frame`
  fun_cases step s fs req
  case case2 => exact .restart
  -- putService when both store calls succeed: the leaf covers "found" and "not found" of the first
  case case15 id m f _ hf _ _ old reg1 _ =>
    obtain rfl : (nextFault fs).1 = f := by rw [hf]
    cases hr : storeGet (nextFault fs).1 s.store.services id with
    | found o =>
      simp only [reg1, old, hr, regPut_regDel]
      exact .putService id m (some o) fun _ => (storeGet_found hr).symm
    | notFound =>
      simp only [reg1, old, hr]
      exact .putService id m none fun hf => (storeGet_notFound hr hf).symm
    | err => contradiction
  case case19 => exact .deleteService _ _ (storeGet_found ‹_›)
  case case31 => exact .deleteSession _
  -- login, sso and shortcut call `getSession`.  A SAML reply: sso (`case42`) or shortcut (`case46`) got a session,
  -- and the registered service provider has a POST endpoint; shortcut reads the registry in the state `getSession` left
  case case42 => exact .saml ⟨by simpa using ‹¬(!_) = true›, rfl, ‹_›⟩ ‹_› (.of_eq ‹_›)
  case case46 =>
    have hg := GetSession.of_eq ‹_›
    exact .saml ⟨_, storeGet_found ‹_›, by cases hg <;> assumption⟩ ‹_› hg
  -- a session and another reply: login; sso without POST endpoint; shortcut without registry entry, without POST endpoint
  case case38 | case43 | case45 | case47 => exact .session (.of_eq ‹_›) trivial
  -- no session: login, sso, shortcut pass on what `getSession` wrote
  case case39 | case44 | case48 => exact .session (.of_eq ‹_›) (GetSession.of_eq ‹_›).plain
  all_goals exact .frame trivial

/-- where a SAML body comes from: a request for an assertion towards a registered service provider with a
    POST endpoint, whose `getSession` returned a session -/
theorem step_saml {s : State} {fs : List Fault} {req : Req} {u prof e relay : String}
    (h : (step s fs req).2.body = .saml u prof e relay) :
    ∃ id σ c md, SessionVia s (credOf req) (cookieOf req) (allowCredOf req) id σ c ∧ σ.user = u ∧ σ.profile = prof ∧
      Target s md relay req ∧ md.entityID = e ∧ md.hasPostACS = true := by
  have ht := step_spec s fs req
  generalize (step s fs req).1 = s' at ht
  generalize (step s fs req).2 = r at ht h
  cases ht with
  | frame hr | session _ hr => exact absurd h (hr.ne_saml _ _ _ _)
  | saml ht hacs hg =>
    cases h
    exact ⟨_, _, _, _, hg.via, rfl, rfl, ht, rfl, hacs⟩
  | _ => cases h

/-! ### the registry and the stored services -/

/-- entity IDs are pairwise distinct across stored services -/
def DistinctEntities (m : Map Md) : Prop :=
  ∀ id1 id2 m1 m2, m.get id1 = some m1 → m.get id2 = some m2 → m1.entityID = m2.entityID → id1 = id2

/-- what the registry must be: entity ↦ the stored service with that entity ID -/
def RegSpec (reg : String → Option Md) (services : Map Md) : Prop :=
  ∀ e md, reg e = some md ↔ ∃ id, services.get id = some md ∧ md.entityID = e

theorem RegSpec.nil : RegSpec (fun _ => none) [] :=
  fun _ _ => ⟨(fun h => nomatch h), fun ⟨_, h, _⟩ => nomatch h⟩

theorem DistinctEntities.del {sv : Map Md} (h : DistinctEntities sv) (id : String) : DistinctEntities (sv.del id) := by
  intro id1 id2 m1 m2 h1 h2
  rw [Map.get_del, Option.ite_none_left_eq_some] at h1 h2
  exact h id1 id2 m1 m2 h1.2 h2.2

/-- deleting a service name, and the registry entry of what was stored under it -/
theorem RegSpec.del {reg : String → Option Md} {sv : Map Md} (h : RegSpec reg sv) (hd : DistinctEntities sv)
    (id : String) :
    RegSpec (match sv.get id with
             | some o => regDel reg o.entityID
             | none => reg) (sv.del id) := by
  intro e md
  -- the entries of the other names are those that do not carry the deleted record's entity ID
  have hother : (∃ id', (sv.del id).get id' = some md ∧ md.entityID = e) ↔
      reg e = some md ∧ ∀ o, sv.get id = some o → e ≠ o.entityID := by
    simp only [h e md, Map.get_del, Option.ite_none_left_eq_some]
    constructor
    · rintro ⟨id', ⟨hne, hg⟩, he⟩
      exact ⟨⟨id', hg, he⟩, fun o ho heq => hne (hd id' id md o hg ho (he.trans heq))⟩
    · rintro ⟨⟨id', hg, he⟩, hne⟩
      exact ⟨id', ⟨fun hid => hne md (hid ▸ hg) he.symm, hg⟩, he⟩
  rw [hother]
  cases sv.get id with
  | none => simp
  | some o => simp [regDel, and_comm]

theorem DistinctEntities.cons {sv : Map Md} {id : String} {m : Md} (h : DistinctEntities sv)
    (hfresh : ∀ id' m', sv.get id' = some m' → m'.entityID ≠ m.entityID) : DistinctEntities ((id, m) :: sv) := by
  intro id1 id2 m1 m2 h1 h2 he
  simp only [Map.get_cons] at h1 h2
  split at h1 <;> split at h2
  · exact ‹id1 = id›.trans ‹id2 = id›.symm
  · cases h1
    exact absurd he.symm (hfresh id2 m2 h2)
  · cases h2
    exact absurd he (hfresh id1 m1 h1)
  · exact h id1 id2 m1 m2 h1 h2 he

theorem RegSpec.cons {reg : String → Option Md} {sv : Map Md} {id : String} {m : Md} (h : RegSpec reg sv)
    (hid : sv.get id = none) (hfresh : ∀ id' m', sv.get id' = some m' → m'.entityID ≠ m.entityID) :
    RegSpec (regPut reg m.entityID m) ((id, m) :: sv) := by
  intro e md
  simp only [regPut, Map.get_cons]
  constructor
  · intro hr
    split at hr
    · cases hr
      exact ⟨id, by simp, ‹e = _›.symm⟩
    · obtain ⟨id', hg, he⟩ := (h e md).mp hr
      refine ⟨id', ?_, he⟩
      rw [if_neg, hg]
      rintro rfl
      rw [hid] at hg
      cases hg
  · rintro ⟨id', hg, he⟩
    split at hg
    · cases hg
      simp [he]
    · rw [if_neg (he ▸ hfresh id' md hg), (h e md).mpr ⟨id', hg, he⟩]

/-- the registry a restart builds satisfies the specification: `initializeServices` registers the stored
    services one by one -/
theorem registryOf_spec (m : Map Md) (hu : UniqueKeys m) (hd : DistinctEntities m) :
    RegSpec (fun e => (registryOf m).get e) m := by
  induction m with
  | nil => exact .nil
  | cons p rest ih =>
    obtain ⟨id, m⟩ := p
    obtain ⟨hid, hrest⟩ := List.nodup_cons.mp hu
    have hid : Map.get rest id = none :=
      List.lookup_eq_none_iff.mpr fun p hp => bne_iff_ne.mpr fun h => hid (List.mem_map.mpr ⟨p, hp, h.symm⟩)
    have hne : ∀ {id' m'}, Map.get rest id' = some m' → id' ≠ id := by
      rintro id' m' hg rfl
      cases hid.symm.trans hg
    have hget : ∀ {id' m'}, Map.get rest id' = some m' → Map.get ((id, m) :: rest) id' = some m' := by
      intro id' m' hg
      rw [Map.get_cons, if_neg (hne hg), hg]
    have := (ih hrest fun a b c d ha hb => hd a b c d (hget ha) (hget hb)).cons (m := m) hid
      fun id' m' hg he => hne hg (hd id' id m' m (hget hg) (by simp [Map.get_cons]) he)
    intro e md
    rw [← this e md]
    simp only [registryOf, List.foldr_cons, Map.get_put, regPut]

theorem RegSpec.unique {a b : String → Option Md} {sv : Map Md} (ha : RegSpec a sv) (hb : RegSpec b sv) : a = b :=
  funext fun e => Option.ext fun md => (ha e md).trans (hb e md).symm

end SamlVerif.IdpServer
