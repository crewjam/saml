/-
  Refinement of SP.Struct to a declarative specification (`accept_iff`), from which the property
  theorems of C02, C03, C04 (and the struct level of C01, C09) are corollaries.
-/
import SamlVerif.Model.SPStruct
import SamlVerif.Proofs.Outcome

namespace SamlVerif.SP

/-! ### Declarative specification -/

structure SCValid (cfg : Cfg) (now : Int) (ids : List String) (sc : SubjConf) : Prop where
  ex : ∃ d, sc.data = some d ∧
        (cfg.allowIdP = false → d.inResponseTo ∈ ids) ∧
        d.recipient = cfg.acsURL ∧
        now ≤ d.notOnOrAfter + cfg.skew

def AudienceOK (cfg : Cfg) (a : AssertionS) (c : Conditions) : Prop :=
  match cfg.audValidator with
  | some f => f a = true
  | none => c.audiences = [] ∨ cfg.audience ∈ c.audiences

structure AssertionValid (cfg : Cfg) (now : Int) (ids : List String) (a : AssertionS) : Prop where
  fresh : now ≤ a.issueInstant + cfg.delay
  issuer : a.issuer = cfg.idpEntityID
  subj : ∃ scs, a.subject = some scs ∧ ∀ sc ∈ scs, SCValid cfg now ids sc
  cond : ∃ c, a.conditions = some c ∧ c.notBefore - cfg.skew ≤ now ∧
          now ≤ c.notOnOrAfter + cfg.skew ∧ AudienceOK cfg a c

def ReqIdOK (cfg : Cfg) (r : ResponseS) (ids : List String) : Prop :=
  match cfg.reqIdValidator with
  | some f => f r ids = true
  | none => cfg.allowIdP = true ∨ r.inResponseTo ∈ ids

structure RespOK (cfg : Cfg) (now : Int) (ids : List String) (url : String)
    (need : Need) (respSig : SigState) (r : ResponseS) : Prop where
  dest : ((need = .required ∧ respSig ≠ .absent) ∨ r.destination ≠ "") →
          r.destination = url ∨ r.destination = cfg.acsURL
  reqId : ReqIdOK cfg r ids
  fresh : now ≤ r.issueInstant + cfg.delay
  issuer : ∀ i, r.issuer = some i → i = cfg.idpEntityID
  status : r.status = cfg.statusSuccess
  sig : need = .required → respSig ≠ .invalid

structure EntryGood (cfg : Cfg) (now : Int) (ids : List String) (need : Need) (e : Entry) : Prop where
  decrypts : e.wrap ≠ .encBad
  signed : need = .required → e.sig = .valid
  valid : AssertionValid cfg now ids e.a

def FirstGood (cfg : Cfg) (now : Int) (ids : List String) (need : Need) (l : List Entry)
    (a : AssertionS) : Prop :=
  ∃ pre e post, l = pre ++ e :: post ∧ EntryGood cfg now ids need e ∧ e.a = a ∧
    ∀ e' ∈ pre, ¬ EntryGood cfg now ids need e'

/-! ### The Boolean tests as propositions -/

theorem audienceOK_iff (cfg : Cfg) (a : AssertionS) (c : Conditions) :
    audienceOK cfg a c = true ↔ AudienceOK cfg a c := by
  unfold audienceOK AudienceOK
  cases cfg.audValidator <;> simp

theorem reqIdOK_iff (cfg : Cfg) (r : ResponseS) (ids : List String) :
    reqIdOK cfg r ids = true ↔ ReqIdOK cfg r ids := by
  unfold reqIdOK ReqIdOK
  cases cfg.reqIdValidator <;> simp

theorem issuerMismatch_iff (i : Option String) (idp : String) :
    issuerMismatch i idp = false ↔ ∀ v, i = some v → v = idp := by
  cases i <;> simp [issuerMismatch]

/-! ### Assertion level

Each `_ok_iff` puts the specification in the validator's terms (`spec`: a structure is the
conjunction of its fields; `← callee_ok_iff`; the Boolean tests); `ite_eq_iff'` then turns each check
into one conjunct, and a `match` on a callee's outcome is decided by `cases` on it. -/

theorem scCheck_ne_panic (cfg now ids sc w) : scCheck cfg now ids sc ≠ .panic w := by
  fun_cases scCheck cfg now ids sc <;> simp

theorem scCheck_ok_iff (cfg : Cfg) (now : Int) (ids : List String) (sc : SubjConf) :
    scCheck cfg now ids sc = .ok () ↔ SCValid cfg now ids sc := by
  refine Iff.trans ?_ ⟨SCValid.mk, SCValid.ex⟩
  rcases sc with ⟨_ | d⟩ <;> simp [scCheck, ite_eq_iff']

theorem scLoop_ne_panic (cfg now ids) (scs : List SubjConf) (w) :
    scLoop cfg now ids scs ≠ .panic w := by
  fun_induction scLoop cfg now ids scs <;> simp_all [scCheck_ne_panic]

theorem scLoop_ok_iff (cfg : Cfg) (now : Int) (ids : List String) (scs : List SubjConf) :
    scLoop cfg now ids scs = .ok () ↔ ∀ sc ∈ scs, SCValid cfg now ids sc := by
  fun_induction scLoop cfg now ids scs <;> simp [*, ← scCheck_ok_iff]

theorem validateAssertion_ne_panic (cfg now ids a w) :
    validateAssertion cfg now ids a ≠ .panic w := by
  fun_cases validateAssertion cfg now ids a <;> simp_all [scLoop_ne_panic]

theorem validateAssertion_ok_iff (cfg : Cfg) (now : Int) (ids : List String) (a : AssertionS) :
    validateAssertion cfg now ids a = .ok () ↔ AssertionValid cfg now ids a := by
  have spec : AssertionValid cfg now ids a ↔ _ ∧ _ ∧ _ ∧ _ :=
    ⟨fun ⟨h1, h2, h3, h4⟩ => ⟨h1, h2, h3, h4⟩, fun ⟨h1, h2, h3, h4⟩ => ⟨h1, h2, h3, h4⟩⟩
  simp only [validateAssertion, spec, ← scLoop_ok_iff, ← audienceOK_iff]
  cases a.subject with
  | none => simp [ite_eq_iff']
  | some scs =>
    cases h : scLoop cfg now ids scs with
    | ok => cases a.conditions <;> simp [ite_eq_iff', h]
    | _ => simp [ite_eq_iff', h]

theorem parseEntry_ne_panic (cfg now ids need e w) : parseEntry cfg now ids need e ≠ .panic w := by
  fun_cases parseEntry cfg now ids need e <;> simp_all [validateAssertion_ne_panic]

theorem parseEntry_ok_iff (cfg : Cfg) (now : Int) (ids : List String) (need : Need) (e : Entry)
    (a : AssertionS) :
    parseEntry cfg now ids need e = .ok a ↔ EntryGood cfg now ids need e ∧ e.a = a := by
  have spec : EntryGood cfg now ids need e ↔ _ ∧ _ ∧ _ :=
    ⟨fun ⟨h1, h2, h3⟩ => ⟨h1, h2, h3⟩, fun ⟨h1, h2, h3⟩ => ⟨h1, h2, h3⟩⟩
  simp only [parseEntry, spec, ← validateAssertion_ok_iff]
  cases validateAssertion cfg now ids e.a <;> simp [ite_eq_iff', and_assoc]

theorem parseEntry_isOk_iff (cfg : Cfg) (now : Int) (ids : List String) (need : Need) (e : Entry) :
    (∃ a, parseEntry cfg now ids need e = .ok a) ↔ EntryGood cfg now ids need e := by
  simp [parseEntry_ok_iff]

/-! ### `collect`: the first entry that parses, in the words of `List.findSome?` -/

theorem collect_eq_ok {α} {rs : List (Outcome α)} {a : α} :
    collect rs = .ok a ↔ firstPanic rs = none ∧ firstOk rs = some a := by
  fun_cases collect rs <;> simp [*]

theorem collect_eq_panic {α} {rs : List (Outcome α)} {w : String} :
    collect rs = .panic w ↔ firstPanic rs = some w := by
  fun_cases collect rs <;> simp [*]

theorem firstPanic_map_eq_none {α β} {f : β → Outcome α} (hf : ∀ e w, f e ≠ .panic w) (l : List β) :
    firstPanic (l.map f) = none := by
  induction l with
  | nil => rfl
  | cons e l ih => cases h : f e <;> simp_all [firstPanic]

theorem firstOk_eq_findSome? {α} (rs : List (Outcome α)) : firstOk rs = rs.findSome? Outcome.toOption := by
  induction rs with
  | nil => rfl
  | cons r rs ih => cases r <;> simp [firstOk, List.findSome?_cons, Outcome.toOption, ih]

theorem firstGood_iff_findSome? {cfg now ids need} {l : List Entry} {a : AssertionS} :
    FirstGood cfg now ids need l a ↔
      l.findSome? (Outcome.toOption ∘ parseEntry cfg now ids need) = some a := by
  simp [FirstGood, List.findSome?_eq_some_iff, parseEntry_ok_iff, and_assoc]

theorem collect_entries_iff (cfg : Cfg) (now : Int) (ids : List String) (need : Need)
    (l : List Entry) (a : AssertionS) :
    collect (l.map (parseEntry cfg now ids need)) = .ok a ↔ FirstGood cfg now ids need l a := by
  simp [collect_eq_ok, firstPanic_map_eq_none, parseEntry_ne_panic, firstOk_eq_findSome?,
    List.findSome?_map, firstGood_iff_findSome?]

theorem exists_firstGood_iff {cfg now ids need} {l : List Entry} :
    (∃ a, FirstGood cfg now ids need l a) ↔ ∃ e ∈ l, EntryGood cfg now ids need e := by
  simp [firstGood_iff_findSome?, ← Option.isSome_iff_exists, parseEntry_ok_iff]

theorem mem_ordered (es : List Entry) (e : Entry) : e ∈ ordered es ↔ e ∈ es :=
  (List.filter_append_perm isEnc es).mem_iff

/-! ### Response level -/

theorem needAfter_eq_notRequired_iff {need : Need} {s : SigState} :
    needAfter need s = .notRequired ↔ need = .notRequired ∨ s = .valid := by
  cases need <;> simp [needAfter]

/-- The SP validator accepts and returns `a` exactly when the response-level conditions hold and
    `a` is the first acceptable assertion in processing order. -/
theorem accept_iff (cfg : Cfg) (now : Int) (ids : List String) (url : String) (need : Need)
    (respSig : SigState) (r : ResponseS) (a : AssertionS) :
    parseResponse cfg now ids url need respSig r = .ok a ↔
      RespOK cfg now ids url need respSig r ∧
      FirstGood cfg now ids (needAfter need respSig) (ordered r.entries) a := by
  have spec : RespOK cfg now ids url need respSig r ↔ _ ∧ _ ∧ _ ∧ _ ∧ _ ∧ _ :=
    ⟨fun ⟨h1, h2, h3, h4, h5, h6⟩ => ⟨h1, h2, h3, h4, h5, h6⟩,
     fun ⟨h1, h2, h3, h4, h5, h6⟩ => ⟨h1, h2, h3, h4, h5, h6⟩⟩
  -- one field of `RespOK` per check, in the order of the checks; what is left is `collect`.  `simp`
  -- leaves the destination check as `d ≠ url → d = acs`; the last lemma puts `RespOK.dest` in that form
  simp [parseResponse, ite_eq_iff', spec, ← collect_entries_iff, ← reqIdOK_iff,
    ← issuerMismatch_iff, and_assoc, Decidable.or_iff_not_imp_left (a := r.destination = url)]

theorem parseResponse_ne_panic (cfg now ids url need respSig r w) :
    parseResponse cfg now ids url need respSig r ≠ .panic w := by
  fun_cases parseResponse cfg now ids url need respSig r <;>
    simp [collect_eq_panic, firstPanic_map_eq_none, parseEntry_ne_panic]

/-! ### Artifact wrapper -/

theorem artifact_accept_iff (cfg : Cfg) (now : Int) (ids : List String) (resolveId url : String)
    (ar : ArtifactResponseS) (a : AssertionS) :
    parseArtifactResponse cfg now ids resolveId url ar = .ok a ↔
      ar.inResponseTo = resolveId ∧ now ≤ ar.issueInstant + cfg.delay ∧
      (∀ i, ar.issuer = some i → i = cfg.idpEntityID) ∧ ar.status = cfg.statusSuccess ∧
      ar.sig ≠ .invalid ∧
      ∃ rs r, ar.response = some (rs, r) ∧
        parseResponse cfg now ids url (if ar.sig = .valid then .notRequired else .required) rs r = .ok a := by
  simp only [parseArtifactResponse, ← issuerMismatch_iff]
  rcases ar.response with _ | ⟨rs, r⟩ <;> simp [ite_eq_iff', and_assoc]

theorem parseArtifactResponse_ne_panic (cfg now ids resolveId url ar w) :
    parseArtifactResponse cfg now ids resolveId url ar ≠ .panic w := by
  fun_cases parseArtifactResponse cfg now ids resolveId url ar <;> simp [parseResponse_ne_panic]

theorem AssertionValid.forall_conf {cfg now ids a} (h : AssertionValid cfg now ids a)
    {P : SCData → Prop}
    (hP : ∀ d, (cfg.allowIdP = false → d.inResponseTo ∈ ids) → d.recipient = cfg.acsURL →
      now ≤ d.notOnOrAfter + cfg.skew → P d) :
    ∃ scs, a.subject = some scs ∧ ∀ sc ∈ scs, ∃ d, sc.data = some d ∧ P d := by
  obtain ⟨scs, hs, hall⟩ := h.subj
  refine ⟨scs, hs, fun sc hsc => ?_⟩
  obtain ⟨d, hd, h1, h2, h3⟩ := (hall sc hsc).ex
  exact ⟨d, hd, hP d h1 h2 h3⟩

/-- What `forall_conf` says of every confirmation, at one of them. -/
theorem conf_of_forall_conf {a : AssertionS} {P : SCData → Prop} {scs sc d}
    (h : ∃ scs, a.subject = some scs ∧ ∀ sc ∈ scs, ∃ d, sc.data = some d ∧ P d)
    (hs : a.subject = some scs) (hsc : sc ∈ scs) (hd : sc.data = some d) : P d := by
  obtain ⟨_, hs', hall⟩ := h
  cases hs.symm.trans hs'
  obtain ⟨_, hd', hp⟩ := hall sc hsc
  cases hd.symm.trans hd'
  exact hp

theorem accept_sound {cfg now ids url need respSig r a}
    (h : parseResponse cfg now ids url need respSig r = .ok a) :
    RespOK cfg now ids url need respSig r ∧
      ∃ e ∈ r.entries, EntryGood cfg now ids (needAfter need respSig) e ∧ e.a = a := by
  obtain ⟨hr, pre, e, post, hl, hg, ha, -⟩ := (accept_iff ..).mp h
  exact ⟨hr, e, (mem_ordered ..).mp (hl ▸ by simp), hg, ha⟩

theorem accept_exists_iff {cfg now ids url need respSig r} :
    (∃ a, parseResponse cfg now ids url need respSig r = .ok a) ↔
      RespOK cfg now ids url need respSig r ∧
        ∃ e ∈ r.entries, EntryGood cfg now ids (needAfter need respSig) e := by
  simp [accept_iff, exists_firstGood_iff, mem_ordered]

theorem accept_single {cfg now ids url need respSig} {r : ResponseS} {e : Entry} {a : AssertionS}
    (he : r.entries = [e]) (ha : e.a = a) (hr : RespOK cfg now ids url need respSig r)
    (hg : EntryGood cfg now ids (needAfter need respSig) e) :
    parseResponse cfg now ids url need respSig r = .ok a := by
  -- some assertion is returned; it is that of an entry, and `e` is the only one
  obtain ⟨a', h⟩ := accept_exists_iff.mpr ⟨hr, e, by simp [he], hg⟩
  obtain ⟨-, e', he', -, rfl⟩ := accept_sound h
  simp_all

end SamlVerif.SP
