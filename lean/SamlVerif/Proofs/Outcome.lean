/- The `Outcome` monad read from the result: what a run that ended in `.ok b` or `.panic w` went through. -/
import SamlVerif.Model.Prelude

namespace SamlVerif

/-- With `simp`, a validator's chain `if bad then .err site else …` compared with `.ok a` or
    `.panic w` loses one check per step: the `.err site = …` disjunct is closed by constructor
    disjointness.  So "accepts iff" and "never panics" are one `simp` each over a validator's definition. -/
theorem ite_eq_iff' {α} {c : Prop} [Decidable c] {x y z : α} :
    (if c then x else y) = z ↔ c ∧ x = z ∨ ¬ c ∧ y = z := by
  split <;> simp [*]

namespace Outcome

variable {α β : Type} {w : String} {x : Outcome α} {f : α → Outcome β} {a : α} {b : β}

theorem bind_eq_ok : (x >>= f) = .ok b ↔ ∃ a, x = .ok a ∧ f a = .ok b := by
  cases x <;> simp [Bind.bind, Outcome.bind]

theorem bind_ne_panic (hx : ∀ w, x ≠ .panic w) (hf : ∀ a w, f a ≠ .panic w) (w : String) : (x >>= f) ≠ .panic w := by
  cases x <;> simp_all [Bind.bind, Outcome.bind]

/-- Walking a function forwards: at an `if`, a property of what it returns is shown arm by arm.  (`split` does the same and
    simplifies the whole goal anew at every `if`.) -/
theorem exists_ok_ite {c : Prop} [Decidable c] {x y : Outcome α} {p : α → Prop}
    (hx : c → ∃ a, x = .ok a ∧ p a) (hy : ¬c → ∃ a, y = .ok a ∧ p a) : ∃ a, (if c then x else y) = .ok a ∧ p a := by
  split
  · exact hx ‹c›
  · exact hy ‹¬c›

@[simp] theorem map_eq_panic {g : α → β} : x.map g = .panic w ↔ x = .panic w := by
  cases x <;> simp [Outcome.map]

def toOption : Outcome α → Option α
  | .ok a => some a
  | _ => none

@[simp] theorem toOption_eq_some : x.toOption = some a ↔ x = .ok a := by
  cases x <;> simp [toOption]

@[simp] theorem toOption_eq_none : x.toOption = none ↔ ∀ a, x ≠ .ok a := by
  cases x <;> simp [toOption]

@[simp] theorem toOption_isSome : x.toOption.isSome ↔ ∃ a, x = .ok a := by
  cases x <;> simp [toOption]

/-- The three ways totality is worded in the property theorems. -/
theorem isPanic_eq_false : x.isPanic = false ↔ ∀ w, x ≠ .panic w := by
  cases x <;> simp [isPanic]

theorem ok_or_err {x : Outcome Unit} : (x = .ok () ∨ ∃ e, x = .err e) ↔ ∀ w, x ≠ .panic w := by
  cases x <;> simp

end Outcome

end SamlVerif
