/-
  html/template's escapers: what they emit cannot end the context it sits in, and decodes to the input.

  `htmlEscape` is a homomorphism for `++`; everything about it is said of one byte (`htmlEscape [b]`)
  and lifted by `htmlEscape_cons`.  The one-byte facts come from `replacement_cases`.
-/
import SamlVerif.Model.Html

namespace SamlVerif.Html

/-- the seven bytes `htmlReplacementTable` has an entry for, or none of them -/
theorem replacement_cases (b : UInt8) :
    b = 0 ∨ b = 34 ∨ b = 38 ∨ b = 39 ∨ b = 43 ∨ b = 60 ∨ b = 62 ∨
    (replacement b = none ∧ b.toNat ≠ 0 ∧ b.toNat ≠ 34 ∧ b.toNat ≠ 38 ∧ b.toNat ≠ 39 ∧ b.toNat ≠ 43 ∧
      b.toNat ≠ 60 ∧ b.toNat ≠ 62) := by
  -- a byte that is none of the seven keys fails every `if` of the table
  simp only [Decidable.or_iff_not_imp_left, ← UInt8.toNat_inj, UInt8.reduceToNat]
  intro h0 h1 h2 h3 h4 h5 h6
  refine ⟨?_, h0, h1, h2, h3, h4, h5, h6⟩
  -- `if_neg`, not `split`, which simplifies the whole chain of `if`s again at every step
  rw [replacement, if_neg h0, if_neg h1, if_neg h2, if_neg h3, if_neg h4, if_neg h5, if_neg h6]

theorem htmlEscape_cons (b : UInt8) (r : Bytes) : htmlEscape (b :: r) = htmlEscape [b] ++ htmlEscape r := by
  simp [htmlEscape]

theorem htmlEscape_byte_inert (b c : UInt8) (hc : c ∈ htmlEscape [b]) :
    c.toNat ≠ 34 ∧ c.toNat ≠ 60 ∧ c.toNat ≠ 62 ∧ c.toNat ≠ 39 ∧ c.toNat ≠ 0 ∧ c.toNat ≠ 43 := by
  revert c
  rcases replacement_cases b with rfl | rfl | rfl | rfl | rfl | rfl | rfl | ⟨hn, h⟩
  -- the seven table entries, by evaluation
  iterate 7 decide +kernel
  intro c hc
  rw [htmlEscape, hn, htmlEscape] at hc
  cases List.mem_singleton.1 hc
  omega

theorem htmlUnescape_cons_ne (b : UInt8) (r : Bytes) (h : b ≠ 38) :
    htmlUnescape (b :: r) = b :: htmlUnescape r := by
  rw [htmlUnescape]
  -- the side conditions of the last equation: `b :: r` matches none of the six references
  all_goals exact fun _ hb _ => h hb

theorem htmlUnescape_byte (b : UInt8) (r : Bytes) :
    htmlUnescape (htmlEscape [b] ++ r) = (if b.toNat = 0 then [0xEF, 0xBF, 0xBD] else [b]) ++ htmlUnescape r := by
  rcases replacement_cases b with rfl | rfl | rfl | rfl | rfl | rfl | rfl | ⟨hn, h⟩
  -- each table entry is one of the references `htmlUnescape` knows
  iterate 7 rfl
  rw [htmlEscape, hn, htmlEscape, if_neg h.1]
  exact htmlUnescape_cons_ne b r fun hb => h.2.2.1 (hb ▸ rfl)

theorem htmlEscape_inert (s : Bytes) :
    ∀ c ∈ htmlEscape s, c.toNat ≠ 34 ∧ c.toNat ≠ 60 ∧ c.toNat ≠ 62 ∧ c.toNat ≠ 39 ∧ c.toNat ≠ 0 ∧ c.toNat ≠ 43 := by
  induction s with
  | nil => nofun
  | cons b r ih =>
    intro c hc
    rw [htmlEscape_cons, List.mem_append] at hc
    exact hc.elim (htmlEscape_byte_inert b c) (ih c)

theorem htmlUnescape_htmlEscape (s : Bytes) : htmlUnescape (htmlEscape s) = nulToFFFD s := by
  induction s with
  | nil => rfl
  | cons b r ih => rw [htmlEscape_cons, htmlUnescape_byte, ih, nulToFFFD]

theorem takeWhile_dropWhile_append_cons (p : UInt8 → Bool) (a : Bytes) (q : UInt8) (rest : Bytes)
    (ha : ∀ c ∈ a, p c = true) (hq : p q = false) :
    (a ++ q :: rest).takeWhile p = a ∧ (a ++ q :: rest).dropWhile p = q :: rest := by
  simp [List.takeWhile_append_of_pos ha, List.dropWhile_append_of_pos ha, hq]

theorem urlFilter_safe (s : Bytes) : isSafeURL (urlFilter s) = true := by
  unfold urlFilter
  split
  · assumption
  · decide

/-- the sixteen digits `urlNormalizer` writes after `%` -/
theorem urlKeep_hexLowerB : ∀ n < 16, urlKeep (hexLowerB n) = true := by decide +kernel

theorem urlNormalize_alphabet (s : Bytes) :
    ∀ c ∈ urlNormalize s, urlKeep c = true ∨ c.toNat = 37 := by
  fun_induction urlNormalize s with
  | case1 => nofun
  | case2 b r hk ih => simpa [hk] using ih
  | case3 b r _ h37 ih =>
    simp only [Bool.and_eq_true, decide_eq_true_eq] at h37
    simpa [h37.1] using ih
  | case4 b r _ _ ih =>
    have hb := b.toNat_lt
    simpa [urlKeep_hexLowerB, show b.toNat / 16 < 16 by omega, Nat.mod_lt] using ih

theorem urlKeep_inert (c : UInt8) (h : urlKeep c = true) :
    c.toNat ≠ 34 ∧ c.toNat ≠ 60 ∧ c.toNat ≠ 62 ∧ c.toNat ≠ 39 ∧ c.toNat ≠ 0 ∧ c.toNat ≠ 32 ∧ 32 < c.toNat ∧ c.toNat < 127 := by
  rw [urlKeep, Bool.or_eq_true] at h
  rcases h with h | h
  · simp only [isAlnum, Bool.decide_or, Bool.decide_and, Bool.or_eq_true, Bool.and_eq_true, decide_eq_true_eq] at h
    omega
  · revert h
    rw [List.contains_iff_mem]
    generalize c.toNat = n
    revert n
    decide +kernel

theorem urlNormalize_inert (s : Bytes) (c : UInt8) (hc : c ∈ urlNormalize s) :
    c.toNat ≠ 34 ∧ c.toNat ≠ 60 ∧ c.toNat ≠ 62 ∧ c.toNat ≠ 39 ∧ c.toNat ≠ 0 ∧ c.toNat ≠ 32 ∧ 32 < c.toNat ∧ c.toNat < 127 := by
  rcases urlNormalize_alphabet s c hc with h | h
  · exact urlKeep_inert c h
  · omega

theorem nulToFFFD_id (s : Bytes) (h : ∀ c ∈ s, c.toNat ≠ 0) : nulToFFFD s = s := by
  induction s with
  | nil => rfl
  | cons b r ih =>
    rw [List.forall_mem_cons] at h
    simp [nulToFFFD, h.1, ih h.2]

/-- what the browser reads back from `action="…"` is the normalised, filtered URL -/
theorem action_value (s : Bytes) : htmlUnescape (urlAttrEscape s) = urlNormalize (urlFilter s) := by
  rw [urlAttrEscape, htmlUnescape_htmlEscape, nulToFFFD_id]
  exact fun c hc => (urlNormalize_inert _ c hc).2.2.2.2.1

end SamlVerif.Html
