import SamlVerif.Model.Codec.Base64

namespace SamlVerif.Codec

theorem b64char_table : ∀ n < 64, b64val (b64char n) = some n ∧ (b64char n).toNat ≠ 61 := by decide +kernel

/-- no `n < 64` is needed: off the table `b64char` is `/` -/
theorem b64char_ge (n : Nat) : 43 ≤ (b64char n).toNat := by
  fun_cases b64char n <;> simp <;> omega

theorem ofNat_eq_of_toNat (b : UInt8) {n : Nat} (h : n = b.toNat) : UInt8.ofNat n = b :=
  h ▸ UInt8.ofNat_toNat

/-- in particular no CR, LF or NUL -/
theorem b64encode_ge (s : Bytes) : ∀ c ∈ b64encode s, 43 ≤ c.toNat := by
  induction s using b64encode.induct with
  | case1 => simp [b64encode]
  | case2 | case3 => simp [b64encode, b64char_ge]
  | case4 a b c r ih => simpa [b64encode, b64char_ge] using ih

/-! A quad without padding decodes the same way wherever it stands: the clauses of `b64decodeQuads` for a
    last and a non-last quad agree on it. -/

theorem b64decodeQuads_full {p q r s : Nat} (hp : p < 64) (hq : q < 64) (hr : r < 64) (hs : s < 64)
    (rest : Bytes) :
    b64decodeQuads (b64char p :: b64char q :: b64char r :: b64char s :: rest) =
      (b64decodeQuads rest).map fun t =>
        UInt8.ofNat (p * 4 + q / 16) :: UInt8.ofNat (q % 16 * 16 + r / 4) :: UInt8.ofNat (r % 4 * 64 + s) :: t := by
  cases rest <;> simp [b64decodeQuads, b64char_table, hp, hq, hr, hs]

theorem b64decodeQuads_pad1 {p q r : Nat} (hp : p < 64) (hq : q < 64) (hr : r < 64) :
    b64decodeQuads [b64char p, b64char q, b64char r, 61] =
      some [UInt8.ofNat (p * 4 + q / 16), UInt8.ofNat (q % 16 * 16 + r / 4)] := by
  simp [b64decodeQuads, b64char_table, hp, hq, hr]

theorem b64decodeQuads_pad2 {p q : Nat} (hp : p < 64) (hq : q < 64) :
    b64decodeQuads [b64char p, b64char q, 61, 61] = some [UInt8.ofNat (p * 4 + q / 16)] := by
  simp [b64decodeQuads, b64char_table, hp, hq]

/-- the four sextets the encoder cuts from three bytes are below 64 and, put back together as the decoder
    does, give the bytes -/
theorem sextets {a b c : Nat} (ha : a < 256) (hb : b < 256) (hc : c < 256) :
    a / 4 < 64 ∧ a % 4 * 16 + b / 16 < 64 ∧ b % 16 * 4 + c / 64 < 64 ∧ c % 64 < 64 ∧
    a / 4 * 4 + (a % 4 * 16 + b / 16) / 16 = a ∧
    (a % 4 * 16 + b / 16) % 16 * 16 + (b % 16 * 4 + c / 64) / 4 = b ∧
    (b % 16 * 4 + c / 64) % 4 * 64 + c % 64 = c := by
  omega

theorem quads_roundtrip (s : Bytes) : b64decodeQuads (b64encode s) = some s := by
  induction s using b64encode.induct with
  | case1 => rfl
  -- one or two bytes: the missing ones count as 0
  | case2 a =>
    have h := sextets a.toNat_lt (b := 0) (c := 0) (by decide) (by decide)
    simp only [Nat.zero_div, Nat.add_zero] at h
    obtain ⟨h1, h2, -, -, ea, -⟩ := h
    rw [b64encode, b64decodeQuads_pad2 h1 h2, ofNat_eq_of_toNat a ea]
  | case3 a b =>
    have h := sextets a.toNat_lt b.toNat_lt (c := 0) (by decide)
    simp only [Nat.zero_div, Nat.add_zero] at h
    obtain ⟨h1, h2, h3, -, ea, eb, -⟩ := h
    rw [b64encode, b64decodeQuads_pad1 h1 h2 h3, ofNat_eq_of_toNat a ea, ofNat_eq_of_toNat b eb]
  | case4 a b c r ih =>
    obtain ⟨h1, h2, h3, h4, ea, eb, ec⟩ := sextets a.toNat_lt b.toNat_lt c.toNat_lt
    rw [b64encode, b64decodeQuads_full h1 h2 h3 h4, ih, Option.map_some,
      ofNat_eq_of_toNat a ea, ofNat_eq_of_toNat b eb, ofNat_eq_of_toNat c ec]

theorem b64_roundtrip (s : Bytes) : b64decode (b64encode s) = some s := by
  unfold b64decode
  rw [List.filter_eq_self.mpr, quads_roundtrip]
  intro c hc
  have := b64encode_ge s c hc
  simp only [decide_eq_true_eq]
  omega

end SamlVerif.Codec
