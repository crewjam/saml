/-
  Round trip of etree's escaping through encoding/xml's text reader, per writer mode.

  Everything rests on `escChar_cases`: what the writer emits for one character is the character
  itself, a reference `&body;` that the reader resolves to it, or U+FFFD for a non-XML character.
  `Reads` is what the reader keeps true from one of the writer's characters to the next.
-/
import SamlVerif.Model.Codec.XmlText

namespace SamlVerif.XmlText

@[simp] theorem pre_ok (c : Char) (d r : List Char) : pre c (.ok (d, r)) = .ok (c :: d, r) := rfl

theorem escape_cons (m : Mode) (c : Char) (cs : List Char) : escape m (c :: cs) = escChar m c ++ escape m cs :=
  List.flatMap_cons

/-- the references the writer uses: the five predefined entities, and TAB, LF, CR by number -/
def refBodies : List (List Char) :=
  [['a', 'm', 'p'], ['l', 't'], ['g', 't'], ['a', 'p', 'o', 's'], ['q', 'u', 'o', 't'],
   ['#', 'x', '9'], ['#', 'x', 'A'], ['#', 'x', 'D']]

theorem refBodies_clean : ∀ body ∈ refBodies, ∀ x ∈ body, x ≠ ';' ∧ x ≠ '<' ∧ x ≠ '&' ∧ x ≠ '"' ∧ x ≠ '\r' := by
  decide +kernel

/-- The three outputs of the writer.  The side conditions of the first are the three places where a
    mode leaves a character raw that the reader does not read back as itself: `>` in the canonical
    attribute mode (`]]>`), `"` in the canonical text mode, CR in the normal mode. -/
theorem escChar_cases (m : Mode) (c : Char) :
    (escChar m c = [c] ∧ inRange c = true ∧ c ≠ '&' ∧ c ≠ '<' ∧
      (c = '>' → m = .canonAttr) ∧ (c = '"' → m = .canonText) ∧ (c = '\r' → m = .normal)) ∨
    (∃ body ∈ refBodies, escChar m c = '&' :: (body ++ [';']) ∧ resolve body = some c) ∨
    (escChar m c = ['�'] ∧ inRange c = false) := by
  by_cases hc : c ∈ ['&', '<', '>', '\'', '"', '\t', '\n', '\r']
  · -- the writer's table, eight characters in four modes, by evaluation: `refBodies` bounds the search for `body`
    revert c
    cases m <;> decide +kernel
  · -- `rw [if_neg _]`, not `split`: each `split` simplifies the whole chain of `if`s over character literals again
    simp only [List.mem_cons, List.not_mem_nil, or_false, not_or] at hc
    obtain ⟨h1, h2, h3, h4, h5, h6, h7, h8⟩ := hc
    rw [escChar, if_neg h1, if_neg h2, if_neg h3, if_neg h4, if_neg h5, if_neg h6, if_neg h7, if_neg h8]
    by_cases hr : inRange c = true
    · exact .inl ⟨if_pos hr, hr, h1, h2, (absurd · h3), (absurd · h5), (absurd · h8)⟩
    · exact .inr (.inr ⟨if_neg hr, by simpa using hr⟩)

theorem lt_not_mem_escChar (m : Mode) (c : Char) : '<' ∉ escChar m c := by
  rcases escChar_cases m c with ⟨he, _, _, h, _⟩ | ⟨body, hmem, he, _⟩ | ⟨he, _⟩
  · rw [he]
    simpa using h.symm
  · rw [he]
    simpa using fun h => (refBodies_clean body hmem _ h).2.1 rfl
  · rw [he]
    decide

theorem cr_mem_escChar (m : Mode) (c : Char) (h : '\r' ∈ escChar m c) : c = '\r' ∧ m = .normal := by
  rcases escChar_cases m c with ⟨he, _, _, _, _, _, hm⟩ | ⟨body, hmem, he, _⟩ | ⟨he, _⟩
  · rw [he] at h
    cases List.mem_singleton.1 h
    exact ⟨rfl, hm rfl⟩
  · rw [he] at h
    simp at h
    exact absurd rfl (refBodies_clean body hmem _ h).2.2.2.2
  · rw [he] at h
    simp at h

/-- the reader's invariant between the writer's characters: outside a reference and not after a carriage
    return (which would swallow a following LF), whatever else it remembers, it makes `R` of `l` -/
def Reads (q : Option Char) (l : List Char) (R : Outcome (List Char × List Char)) : Prop :=
  ∀ b0 b1, b1 ≠ '\r' → scan q b0 b1 none l = R

/-- `c ≠ '>'` switches the `]]>` test off and `b1 ≠ '\r'` the CR LF one; afterwards the reader remembers
    `(b1, c)`, and `c` is no carriage return -/
theorem scan_plain (q : Option Char) (c : Char) (rest : List Char) (R : Outcome (List Char × List Char))
    (hR : Reads q rest R) (h1 : c ≠ '>') (h2 : c ≠ '<') (h3 : q ≠ some c) (h4 : c ≠ '&') (h5 : c ≠ '\r')
    (h6 : inRange c = true) : Reads q (c :: rest) (pre c R) := by
  intro b0 b1 hb1
  rw [scan, ← hR b1 c h5]
  simp [h1, h2, h3, h4, h5, h6, hb1]

theorem scan_ref_body (q : Option Char) (b0 b1 : Char) (acc buf : List Char) (rest : List Char)
    (hb : ∀ c ∈ buf, c ≠ ';' ∧ c ≠ '<' ∧ c ≠ '&' ∧ q ≠ some c) :
    scan q b0 b1 (some acc) (buf ++ ';' :: rest) = scan q b0 b1 (some (acc ++ buf)) (';' :: rest) := by
  induction buf generalizing acc with
  | nil => simp
  | cons c cs ih =>
    obtain ⟨⟨h1, h2, h3, h4⟩, hcs⟩ := List.forall_mem_cons.1 hb
    rw [List.cons_append, scan]
    simp only [h1, h2, h3, h4, or_self, if_false]
    rw [ih (acc ++ [c]) hcs]
    simp

/-- afterwards the reader remembers `(nul, nul)` -/
theorem scan_ref (q : Option Char) (buf rest : List Char) (ch : Char) (R : Outcome (List Char × List Char))
    (hR : Reads q rest R) (hb : ∀ c ∈ buf, c ≠ ';' ∧ c ≠ '<' ∧ c ≠ '&' ∧ q ≠ some c) (hr : resolve buf = some ch)
    (hq : q ≠ some '&') : Reads q ('&' :: (buf ++ ';' :: rest)) (pre ch R) := by
  intro b0 b1 _
  rw [scan, ← hR nul nul (by decide)]
  simp only [hq, Char.reduceEq, and_false, if_false, if_true]
  rw [scan_ref_body q b0 b1 [] buf rest hb, scan]
  simp [hr]

/-- the reader's terminator is not one the writer of mode `m` leaves raw: character data (no quote),
    or a `"`-quoted value written in a mode that escapes `"` -/
def QuoteOK (m : Mode) (q : Option Char) : Prop := ∀ c, q = some c → c = '"' ∧ m ≠ .canonText

/-- the characters mode `m` writes so that they are read back: XML characters other than CR in the
    normal mode and `>` in the canonical attribute mode -/
def Lossless (m : Mode) (c : Char) : Prop :=
  inRange c = true ∧ (c = '\r' → m ≠ .normal) ∧ (c = '>' → m ≠ .canonAttr)

theorem scan_escChar (m : Mode) (q : Option Char) (hq : QuoteOK m q) (c : Char) (hc : Lossless m c)
    (rest : List Char) (R : Outcome (List Char × List Char)) (hR : Reads q rest R) :
    Reads q (escChar m c ++ rest) (pre c R) := by
  have hqn (x : Char) (hx : x ≠ '"') : q ≠ some x := fun h => hx (hq x h).1
  rcases escChar_cases m c with ⟨he, hr, hamp, hlt, hgt, hquot, hcr⟩ | ⟨body, hmem, he, hres⟩ | ⟨_, hr⟩
  · rw [he]
    exact scan_plain q c rest R hR (fun h => hc.2.2 h (hgt h)) hlt (fun h => (hq c h).2 (hquot (hq c h).1))
      hamp (fun h => hc.2.1 h (hcr h)) hr
  · have hb := refBodies_clean body hmem
    rw [he, List.cons_append, List.append_assoc]
    exact scan_ref q body rest c R hR
      (fun x hx => let ⟨h1, h2, h3, h4, _⟩ := hb x hx; ⟨h1, h2, h3, hqn x h4⟩) hres (hqn _ (by decide))
  · rw [hc.1] at hr
    cases hr

theorem foldr_pre_ok (s d r : List Char) : s.foldr pre (.ok (d, r)) = .ok (s ++ d, r) := by
  induction s with
  | nil => rfl
  | cons c cs ih => simp [List.foldr, ih]

/-- **Round trip**: what the writer emits for `s` is read back as exactly `s`, in front of whatever the
    reader makes of what follows. -/
theorem scan_escape (m : Mode) (q : Option Char) (hq : QuoteOK m q) (s : List Char) (hs : ∀ c ∈ s, Lossless m c)
    (tail : List Char) (R : Outcome (List Char × List Char)) (ht : Reads q tail R) :
    Reads q (escape m s ++ tail) (s.foldr pre R) := by
  induction s with
  | nil => exact ht
  | cons c cs ih =>
    rw [List.forall_mem_cons] at hs
    rw [escape_cons, List.append_assoc]
    exact scan_escChar m q hq c hs.1 _ _ (ih hs.2)

theorem text_roundtrip (m : Mode) (s : List Char) (hs : ∀ c ∈ s, Lossless m c) (rest : List Char) :
    readText (escape m s ++ '<' :: rest) = .ok (s, '<' :: rest) := by
  have h := scan_escape m none nofun s hs ('<' :: rest) (.ok ([], '<' :: rest)) (fun b0 b1 _ => by simp [scan])
    nul nul (by decide)
  rwa [foldr_pre_ok, List.append_nil] at h

theorem attr_roundtrip (m : Mode) (hm : m ≠ .canonText) (s : List Char) (hs : ∀ c ∈ s, Lossless m c) (rest : List Char) :
    readAttr (escape m s ++ '"' :: rest) = .ok (s, rest) := by
  have h := scan_escape m (some '"') (fun c hc => ⟨(Option.some.inj hc).symm, hm⟩) s hs ('"' :: rest)
    (.ok ([], rest)) (fun b0 b1 _ => by simp [scan]) nul nul (by decide)
  rwa [foldr_pre_ok, List.append_nil] at h

theorem crReplace_append (a b : List Char) : crReplace (a ++ b) = crReplace a ++ crReplace b := by
  unfold crReplace; simp

theorem crReplace_of_not_mem (l : List Char) (h : '\r' ∉ l) : crReplace l = l := by
  induction l with
  | nil => rfl
  | cons c cs ih =>
    rw [List.mem_cons, not_or] at h
    rw [← List.singleton_append, crReplace_append, ih h.2, crReplace, List.flatMap_singleton, if_neg (Ne.symm h.1)]

theorem crReplace_escChar_normal (c : Char) : crReplace (escChar .normal c) = escChar .attrCR c := by
  by_cases h : c = '\r'
  · subst h
    decide
  · rw [crReplace_of_not_mem]
    · simp [escChar, h]
    · exact fun hm => h (cr_mem_escChar _ c hm).1

/-- what the library writes for an attribute value: etree's normal mode, carriage returns replaced -/
theorem crReplace_escape_normal (s : List Char) : crReplace (escape .normal s) = escape .attrCR s := by
  induction s with
  | nil => rfl
  | cons c cs ih => rw [escape_cons, escape_cons, crReplace_append, crReplace_escChar_normal, ih]

end SamlVerif.XmlText
