/-
  The IdP's request validation (`Model/IdP.lean`) and producer (`Model/IdPOut.lean`).  `validate` and
  `selectACS` are characterised by the cases of their definitions (`validate_eq_ok`, `selectACS_sound`).
  `serveSSO` and `produce` are binds of their stages, so "it answered, hence every stage answered" and
  "no stage panics, hence it does not" are `Outcome.bind_eq_ok` and `Outcome.bind_ne_panic`; the
  innermost stages, `encryptionOf` and `respond`, are characterised directly.
-/
import SamlVerif.Model.IdPOut
import SamlVerif.Proofs.Outcome

namespace SamlVerif.IdP

theorem mem_allEndpoints {md : EntityDesc} {p : SPSSO × Endpoint} :
    p ∈ allEndpoints md ↔ p.1 ∈ md.spsso ∧ p.2 ∈ p.1.acs := by
  obtain ⟨d, e⟩ := p
  simp [allEndpoints]

theorem selectACS_sound {md : EntityDesc} {req : AuthnRequestS} {p : SPSSO × Endpoint}
    (h : selectACS md req = some p) :
    p ∈ allEndpoints md ∧
    ((req.acsIndex ≠ "" ∧ toString p.2.index = req.acsIndex) ∨
     (req.acsURL ≠ "" ∧ p.2.location = req.acsURL) ∨
     (req.acsURL = "" ∧ req.acsIndex = "" ∧ isBrowserBinding p.2.binding = true)) := by
  revert h
  -- the branches of the definition in order: by index, by URL, default, first browser binding, nothing
  fun_cases selectACS md req
  case case1 q hq =>
    rintro ⟨⟩
    obtain ⟨hi, hq⟩ := Option.ite_none_right_eq_some.mp hq
    exact ⟨List.mem_of_find?_eq_some hq, .inl ⟨hi, by simpa using List.find?_some hq⟩⟩
  case case2 q hq =>
    rintro ⟨⟩
    obtain ⟨hu, hq⟩ := Option.ite_none_right_eq_some.mp hq
    exact ⟨List.mem_of_find?_eq_some hq, .inr (.inl ⟨hu, by simpa using List.find?_some hq⟩)⟩
  case case3 hn q hq =>
    rintro ⟨⟩
    exact ⟨List.mem_of_find?_eq_some hq,
      .inr (.inr ⟨hn.1, hn.2, (Bool.and_eq_true_iff.mp (List.find?_some hq :)).2⟩)⟩
  case case4 hn _ =>
    intro hq
    exact ⟨List.mem_of_find?_eq_some hq, .inr (.inr ⟨hn.1, hn.2, (List.find?_some hq :)⟩)⟩
  case case5 => nofun

/-- The `Routing` that `Validate` leaves is the metadata registered for the issuer and the choice of
    `getACSEndpoint` in it. -/
theorem validate_eq_ok {cfg : Cfg} {now : Int} {reg : String → Lookup} {req : AuthnRequestS} {ρ : Routing} :
    validate cfg now reg req = .ok ρ ↔
      (req.destination = "" ∨ req.destination = cfg.ssoURL) ∧ now ≤ req.issueInstant + cfg.delay ∧
      req.version = "2.0" ∧ ∃ iss, req.issuer = some iss ∧ reg iss = .found ρ.md ∧
        selectACS ρ.md req = some (ρ.desc, ρ.acs) := by
  -- the branches in order: the three guards, no issuer, the two registry failures, no endpoint, success
  fun_cases validate cfg now reg req
  case case1 h => simp [h]
  case case2 h => simp [Int.not_le.mpr h]
  case case3 h => simp [h]
  case case4 hi => simp [hi]
  case case5 iss hi hr | case6 iss hi hr => simp [hi, hr]
  case case7 iss hi md hr hs =>
    refine iff_of_false (by simp) ?_
    rintro ⟨-, -, -, iss', hi', hr', hs'⟩
    cases hi.symm.trans hi'
    cases hr.symm.trans hr'
    cases hs.symm.trans hs'
  case case8 hd hf hv iss hi md hr d e hs =>
    constructor
    · intro h
      cases h
      exact ⟨Decidable.or_iff_not_imp_left.mpr (by simpa using hd), Int.not_lt.mp hf, Classical.not_not.mp hv,
        iss, hi, hr, hs⟩
    · rintro ⟨-, -, -, iss', hi', hr', hs'⟩
      cases hi.symm.trans hi'
      cases hr.symm.trans hr'
      cases hs.symm.trans hs'
      rfl

theorem selectEncCert_ne_panic (keys : List KeyDesc) (w : String) : selectEncCert keys ≠ .panic w := by
  fun_cases selectEncCert keys <;> simp

end SamlVerif.IdP

namespace SamlVerif.IdPOut
open SamlVerif.IdP

theorem serveSSO_eq (vcfg cfg usable registry areq s reqNow now) :
    serveSSO vcfg cfg usable registry areq s reqNow now =
      validate vcfg reqNow registry areq >>= fun ρ =>
        produce cfg usable ρ ⟨areq.id, areq.issueInstant⟩ s reqNow now := by
  unfold serveSSO
  cases validate vcfg reqNow registry areq <;> rfl

theorem produce_eq (cfg usable ρ req s reqNow now) :
    produce cfg usable ρ req s reqNow now =
      encryptionOf usable ρ.desc.keys >>= fun enc =>
        respond cfg ρ.md ρ.acs (chooseReqAttrs ρ.desc.attrSvcs) req s reqNow now enc := by
  unfold produce
  cases encryptionOf usable ρ.desc.keys <;> rfl

theorem produce_eq_ok {cfg usable ρ req s reqNow now r} :
    produce cfg usable ρ req s reqNow now = .ok r ↔
      ∃ enc, encryptionOf usable ρ.desc.keys = .ok enc ∧
        respond cfg ρ.md ρ.acs (chooseReqAttrs ρ.desc.attrSvcs) req s reqNow now enc = .ok r := by
  rw [produce_eq, Outcome.bind_eq_ok]

theorem encryptionOf_eq_ok {usable : String → Bool} {keys : List KeyDesc} {b : Bool} :
    encryptionOf usable keys = .ok b ↔
      (b = false ∧ selectEncCert keys = .ok .none) ∨
      (b = true ∧ ∃ c, selectEncCert keys = .ok (.cert c) ∧ usable c = true) := by
  fun_cases encryptionOf usable keys <;> simp [*]

theorem encryptionOf_ne_panic (usable : String → Bool) (keys : List KeyDesc) (w : String) :
    encryptionOf usable keys ≠ .panic w := by
  fun_cases encryptionOf usable keys <;> simp_all [selectEncCert_ne_panic]

theorem respond_eq_ok {cfg md acs ras req s reqNow now enc r} :
    respond cfg md acs ras req s reqNow now enc = .ok r ↔
      acs.binding = postBinding ∧
      r = { url := acs.location, destination := acs.location, inResponseTo := req.id, issueInstant := reqNow,
            issuer := cfg.entityID, status := "urn:oasis:names:tc:SAML:2.0:status:Success",
            assertion := makeAssertion cfg md.entityID acs.location ras req s reqNow now, encrypted := enc } := by
  simp [respond, ite_eq_iff', eq_comm (a := r)]

theorem produce_ne_panic (cfg usable ρ req s reqNow now w) : produce cfg usable ρ req s reqNow now ≠ .panic w := by
  rw [produce_eq]
  refine Outcome.bind_ne_panic (encryptionOf_ne_panic usable _) (fun enc w => ?_) w
  simp [respond, ite_eq_iff']

end SamlVerif.IdPOut
